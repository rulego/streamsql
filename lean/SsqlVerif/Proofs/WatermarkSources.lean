/-
What can raise a watermark (C02).  In every history the current watermark is backed either by an event time that
passed the far-future guard or by the wall clock of a tick at which the idle timeout had elapsed, each minus
MAXOUTOFORDERNESS.  Without idle ticks only the first source remains.
-/
import SsqlVerif.Proofs.WatermarkBound
import SsqlVerif.Proofs.Sliding
import SsqlVerif.Generated.Facts
set_option autoImplicit false

namespace Wm

/-- the guard as a function of the two configuration constants -/
def refused (ooo slack ts now : Int) : Bool := decide (now + ooo + slack < ts)

/-- `ooo`, `slack`: the configuration constants; `A`: event times that passed the guard so far; `I`: wall-clock
readings of idle ticks so far -/
structure Backed (ooo slack : Int) (A I : List Int) (w : Wm) : Prop where
  hooo : w.maxOOO = ooo
  hslack : w.slack = slack
  hcur : ∀ c, w.cur = some c → ∃ m, (m ∈ A ∨ m ∈ I) ∧ c ≤ m - ooo
  hmax : ∀ m, w.maxEv = some m → m ∈ A

variable {ooo slack : Int} {A I : List Int} {w : Wm}

/-- the slack every model starts with (`Wm.slack`'s default) is the constant read off /repo -/
theorem slack_default (ooo : Int) : ({ maxOOO := ooo } : Wm).slack = Facts.window_maxFutureSlack := rfl

theorem backed_init (ooo : Int) : Backed ooo Facts.window_maxFutureSlack [] [] { maxOOO := ooo } :=
  ⟨rfl, slack_default ooo, fun _ h => (nomatch h), fun _ h => (nomatch h)⟩

theorem backed_mono {A' I' : List Int} (h : Backed ooo slack A I w)
    (ha : ∀ x ∈ A, x ∈ A') (hi : ∀ x ∈ I, x ∈ I') : Backed ooo slack A' I' w where
  hooo := h.hooo
  hslack := h.hslack
  hcur := fun c hc => by
    obtain ⟨m, hm, hle⟩ := h.hcur c hc
    exact ⟨m, hm.imp (ha m) (hi m), hle⟩
  hmax := fun m hm => ha m (h.hmax m hm)

theorem backed_send (h : Backed ooo slack A I w) : Backed ooo slack A I (send w) := by
  obtain ⟨h1, h2, h3, h4⟩ := send_frame w
  refine ⟨?_, ?_, ?_, ?_⟩
  · rw [h3]
    exact h.hooo
  · rw [h4]
    exact h.hslack
  · rw [h1]
    exact h.hcur
  · rw [h2]
    exact h.hmax

theorem backed_updateEventTime (ts now : Int) (h : Backed ooo slack A I w) :
    Backed ooo slack (A ++ if refused ooo slack ts now then [] else [ts]) I (updateEventTime w ts now) := by
  have hguard : tooFar w ts now = refused ooo slack ts now := by rw [tooFar, refused, h.hooo, h.hslack]
  have hts : ts ∈ A ++ [ts] := List.mem_append_right _ (List.mem_singleton.mpr rfl)
  fun_cases updateEventTime w ts now
  case case1 hfar =>  -- too far ahead
    rw [if_pos (hguard ▸ hfar), List.append_nil]
    exact h
  case case2 hfar =>
    rw [if_neg (hguard ▸ hfar)]
    apply backed_send
    fun_cases bumpMax w ts
    case case1 =>  -- new maximum
      refine ⟨h.hooo, h.hslack, fun c hc => ?_, fun m hm => ?_⟩
      · rcases raise_cases _ _ _ hc with rfl | hc
        · exact ⟨ts, Or.inl hts, h.hooo ▸ Int.le_refl _⟩
        · obtain ⟨m, hm, hle⟩ := h.hcur c hc
          exact ⟨m, hm.imp_left (List.mem_append_left _), hle⟩
      · cases hm
        exact hts
    case case2 => exact backed_mono h (fun x hx => List.mem_append_left _ hx) (fun x hx => hx)

/-- a tick without elapsed idle timeout contributes nothing new: it re-offers the recorded maximum -/
theorem backed_tick (idle : Bool) (now : Int) (h : Backed ooo slack A I w) :
    Backed ooo slack A (I ++ if idle then [now] else []) (tick w idle now) := by
  unfold tick
  cases hm : w.maxEv with
  | none => exact backed_mono h (fun x hx => hx) (fun x hx => List.mem_append_left _ hx)
  | some m =>
    apply backed_send
    refine ⟨h.hooo, h.hslack, fun c hc => ?_, fun m' hm' => h.hmax m' (hm ▸ hm')⟩
    rcases raise_cases _ _ _ hc with rfl | hc
    · rw [h.hooo]
      cases idle
      · exact ⟨m, Or.inl (h.hmax m hm), Int.le_refl _⟩
      · exact ⟨now, Or.inr (by simp), Int.le_refl _⟩
    · obtain ⟨m', hm', hle⟩ := h.hcur c hc
      exact ⟨m', hm'.imp_right (List.mem_append_left _), hle⟩

theorem Backed.source (h : Backed ooo slack A I w) {x : Int} (hx : Tumbling.leOpt x w.cur) :
    (∃ m ∈ A, x + ooo ≤ m) ∨ (∃ n ∈ I, x + ooo ≤ n) := by
  obtain ⟨y, hy, hxy⟩ := hx
  obtain ⟨m, hm, hle⟩ := h.hcur y hy
  have hxm : x + ooo ≤ m := Int.add_le_of_le_sub_right (Int.le_trans hxy hle)
  exact hm.elim (fun hm => Or.inl ⟨m, hm, hxm⟩) (fun hm => Or.inr ⟨m, hm, hxm⟩)

theorem backed_pop {w' : Wm} (x : Int) (h : Backed ooo slack A I w) (hp : pop w = some (x, w')) :
    Backed ooo slack A I w' := by
  obtain ⟨rest, _, rfl⟩ := pop_eq w x w' hp
  exact ⟨h.hooo, h.hslack, h.hcur, h.hmax⟩

end Wm

namespace Tumbling
open Wm

/-- event times of the history's Adds that passed the far-future guard -/
def accepted (ooo slack : Int) : List Op → List Int
  | [] => []
  | .add r now :: ops => (if refused ooo slack r.ts now then [] else [r.ts]) ++ accepted ooo slack ops
  | _ :: ops => accepted ooo slack ops

/-- wall-clock readings of the ticks at which the idle timeout had elapsed -/
def idleNows : List Op → List Int
  | [] => []
  | .tick true now :: ops => now :: idleNows ops
  | _ :: ops => idleNows ops

theorem accepted_sub_ingested (ooo slack : Int) (ops : List Op) : ∀ m ∈ accepted ooo slack ops, m ∈ ingested ops := by
  induction ops with
  | nil =>
    intro m h
    cases h
  | cons op ops ih =>
    intro m h
    cases op with
    | add r now =>
      rcases List.mem_append.mp h with h | h
      · split at h
        · cases h
        · exact List.mem_cons.mpr (Or.inl (List.mem_singleton.mp h))
      · exact List.mem_cons_of_mem _ (ih m h)
    | _ => exact ih m h

theorem idleNows_of_noIdle (ops : List Op) (h : ∀ op ∈ ops, NoIdle op) : idleNows ops = [] := by
  induction ops with
  | nil => rfl
  | cons op ops ih =>
    have hrest := ih (fun o ho => h o (List.mem_cons_of_mem _ ho))
    cases op with
    | tick idle now =>
      have : idle = false := h _ List.mem_cons_self
      subst this
      exact hrest
    | _ => exact hrest

theorem run_backed (s : TW) (ops : List Op) (ooo slack : Int) (A I : List Int) (h : Backed ooo slack A I s.wm) :
    Backed ooo slack (A ++ accepted ooo slack ops) (I ++ idleNows ops) (run s ops).1.wm := by
  induction ops generalizing s A I with
  | nil => exact (List.append_nil A).symm ▸ (List.append_nil I).symm ▸ h
  | cons op ops ih =>
    cases op with
    | add r now =>
      have := ih (step s (.add r now)).1 _ _ (backed_updateEventTime r.ts now h)
      rwa [List.append_assoc] at this
    | addNoTs => exact ih s A I h
    | tick idle now =>
      have := ih (step s (.tick idle now)).1 _ _ (backed_tick idle now h)
      cases idle
      · rwa [if_neg Bool.false_ne_true, List.append_nil] at this
      · rwa [if_pos rfl, List.append_assoc] at this
    | pop =>
      refine ih _ A I ?_
      show Backed ooo slack A I (stepPop s).wm
      rcases stepPop_cases s with h' | ⟨_, _, hp, h'⟩ <;> rw [h']
      · exact h
      · exact backed_pop _ h hp
    | iter =>
      refine ih _ A I ?_
      show Backed ooo slack A I (stepIter s).1.wm
      rw [(stepIter_frame s).1]
      exact h

end Tumbling

namespace Sliding
open Wm

def accepted (ooo slack : Int) : List Op → List Int
  | [] => []
  | .add r now :: ops => (if refused ooo slack r.ts now then [] else [r.ts]) ++ accepted ooo slack ops
  | _ :: ops => accepted ooo slack ops

def idleNows : List Op → List Int
  | [] => []
  | .tick true now :: ops => now :: idleNows ops
  | _ :: ops => idleNows ops

theorem run_backed (s : SW) (ops : List Op) (ooo slack : Int) (A I : List Int) (h : Backed ooo slack A I s.wm) :
    Backed ooo slack (A ++ accepted ooo slack ops) (I ++ idleNows ops) (run s ops).1.wm := by
  induction ops generalizing s A I with
  | nil => exact (List.append_nil A).symm ▸ (List.append_nil I).symm ▸ h
  | cons op ops ih =>
    cases op with
    | add r now =>
      have := ih (step s (.add r now)).1 _ _ (backed_updateEventTime r.ts now h)
      rwa [List.append_assoc] at this
    | addNoTs => exact ih s A I h
    | tick idle now =>
      have := ih (step s (.tick idle now)).1 _ _ (backed_tick idle now h)
      cases idle
      · rwa [if_neg Bool.false_ne_true, List.append_nil] at this
      · rwa [if_pos rfl, List.append_assoc] at this
    | pop =>
      refine ih _ A I ?_
      show Backed ooo slack A I (stepPop s).wm
      rcases stepPop_cases s with h' | ⟨_, _, hp, h'⟩ <;> rw [h']
      · exact h
      · exact backed_pop _ h hp
    | iter =>
      refine ih _ A I ?_
      show Backed ooo slack A I (stepIter s).1.wm
      rw [(stepIter_frame s).1]
      exact h

end Sliding

namespace Session
open Wm

def accepted (ooo slack : Int) : List Op → List Int
  | [] => []
  | .add _ r now :: ops => (if refused ooo slack r.ts now then [] else [r.ts]) ++ accepted ooo slack ops
  | _ :: ops => accepted ooo slack ops

def idleNows : List Op → List Int
  | [] => []
  | .tick true now :: ops => now :: idleNows ops
  | _ :: ops => idleNows ops

theorem accepted_sub_ingested (ooo slack : Int) (ops : List Op) : ∀ m ∈ accepted ooo slack ops, m ∈ ingested ops := by
  induction ops with
  | nil =>
    intro m h
    cases h
  | cons op ops ih =>
    intro m h
    cases op with
    | add k r now =>
      rcases List.mem_append.mp h with h | h
      · split at h
        · cases h
        · exact List.mem_cons.mpr (Or.inl (List.mem_singleton.mp h))
      · exact List.mem_cons_of_mem _ (ih m h)
    | _ => exact ih m h

theorem idleNows_of_noIdle (ops : List Op) (h : ∀ op ∈ ops, NoIdle op) : idleNows ops = [] := by
  induction ops with
  | nil => rfl
  | cons op ops ih =>
    have hrest := ih (fun o ho => h o (List.mem_cons_of_mem _ ho))
    cases op with
    | tick idle now =>
      have : idle = false := h _ List.mem_cons_self
      subst this
      exact hrest
    | _ => exact hrest

theorem run_backed (w : SWin) (ops : List Op) (ooo slack : Int) (A I : List Int) (h : Backed ooo slack A I w.wm) :
    Backed ooo slack (A ++ accepted ooo slack ops) (I ++ idleNows ops) (run w ops).1.wm := by
  induction ops generalizing w A I with
  | nil => exact (List.append_nil A).symm ▸ (List.append_nil I).symm ▸ h
  | cons op ops ih =>
    cases op with
    | add k r now =>
      have := ih (step w (.add k r now)).1 _ _ (backed_updateEventTime r.ts now h)
      rwa [List.append_assoc] at this
    | addNoTs => exact ih w A I h
    | tick idle now =>
      have := ih (step w (.tick idle now)).1 _ _ (backed_tick idle now h)
      cases idle
      · rwa [if_neg Bool.false_ne_true, List.append_nil] at this
      · rwa [if_pos rfl, List.append_assoc] at this
    | deliver =>
      refine ih _ A I ?_
      show Backed ooo slack A I (stepDeliver w).1.wm
      unfold stepDeliver
      split
      · exact h
      · rename_i hp
        exact backed_pop _ h hp

end Session
