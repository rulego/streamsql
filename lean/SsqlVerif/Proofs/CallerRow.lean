/-
Lemmas for C20: ownership of the working map, append-only heap of result rows, memo-table transparency.
-/
import SsqlVerif.Model.CallerRow
set_option autoImplicit false

namespace Caller
open Pipe

/-- what `Work.writeAll` does to the map the writes go to -/
def applyAll (m : Row) : List (Str × Value) → Row
  | [] => m
  | (k, v) :: rest => applyAll (setKey k v m) rest

theorem detach_eq (w : Work) : w.detach = ⟨w.caller, some w.read⟩ := by
  obtain ⟨c, _ | m⟩ := w <;> rfl

/-- writes to a map the engine owns stay in that map -/
theorem writeAll_own (c m : Row) (kvs : List (Str × Value)) :
    (⟨c, some m⟩ : Work).writeAll kvs = ⟨c, some (applyAll m kvs)⟩ := by
  induction kvs generalizing m with
  | nil => rfl
  | cons kv rest ih => exact ih _

theorem writeAll_read (w : Work) (kvs : List (Str × Value)) : (w.writeAll kvs).read = applyAll w.read kvs := by
  induction kvs generalizing w with
  | nil => rfl
  | cons kv rest ih => obtain ⟨c, _ | m⟩ := w <;> exact ih _

section stages
variable (q : QCfg) (e : QEnv) (w : Work)

theorem evalAnalytic_caller : (evalAnalytic q e w).1.caller = w.caller := by
  fun_cases evalAnalytic q e w with
  | case1 h => rfl -- nothing analytic
  | case2 h => rw [detach_eq, writeAll_own, writeAll_own]

theorem applyWhereAndAnalytic_caller : (applyWhereAndAnalytic q e w).1.caller = w.caller := by
  fun_cases applyWhereAndAnalytic q e w with
  | case1 | case2 | case3 => exact evalAnalytic_caller q e w -- analytic stage ran
  | case4 => rfl -- WHERE first, dropped

theorem enrich_caller (w' : Work) (h : enrich q e w = some w') : w'.caller = w.caller := by
  revert h
  fun_cases enrich q e w with
  | case1 hj => -- no JOIN
    intro h
    rw [← Option.some.inj h]
  | case2 hj hr => nofun -- INNER JOIN, no match
  | case3 hj extra hr => -- joined
    intro h
    rw [← Option.some.inj h, writeAll_own]

theorem injectGroupKeys_caller : (injectGroupKeys q e w).caller = w.caller := by
  fun_cases injectGroupKeys q e w with
  | case1 h => rfl -- no computed key
  | case2 h => rw [detach_eq, writeAll_own]

theorem directStep_caller (row : Row) : (directStep q e row).1 = row := by
  fun_cases directStep q e row with
  | case1 he => rfl -- dropped by the JOIN
  | case2 w he | case3 w he => -- filtered out, projected
    exact (applyWhereAndAnalytic_caller q e w).trans (enrich_caller q e _ w he)

theorem windowStep_caller (row : Row) : (windowStep q e row).1 = row := by
  fun_cases windowStep q e row with
  | case1 he => rfl -- dropped by the JOIN
  | case2 w he hp => exact (injectGroupKeys_caller q e w).trans (enrich_caller q e _ w he) -- kept
  | case3 w he hp => exact enrich_caller q e _ w he -- filtered out

theorem evalAnalytic_eq_inPlace :
    (evalAnalytic q e w).1.read = (evalAnalyticInPlace q e w).1.read ∧
    (evalAnalytic q e w).2 = (evalAnalyticInPlace q e w).2 := by
  unfold evalAnalytic evalAnalyticInPlace
  cases !hasAnalytic q
  · simp only [Bool.false_eq_true, ↓reduceIte, detach_eq, writeAll_own, writeAll_read, and_true]
    rfl
  · exact ⟨rfl, rfl⟩

theorem injectGroupKeys_read_eq_inPlace : (injectGroupKeys q e w).read = (injectGroupKeysInPlace q e w).read := by
  unfold injectGroupKeys injectGroupKeysInPlace
  cases h : groupInjections e w.read q.groupFields with
  | nil => rfl
  | cons kv rest =>
    rw [writeAll_read, detach_eq, writeAll_own]
    rfl

end stages

theorem applyWrites_keeps {P : Heap → Prop} (base : Nat) (hset : ∀ h off r, P h → P (heapSet h (base + off) r))
    (h : Heap) (ws : List (Nat × Str × Value)) (hP : P h) : P (applyWrites base h ws) := by
  induction ws generalizing h with
  | nil => exact hP
  | cons w rest ih =>
    refine ih _ ?_
    cases h[base + w.1]? with
    | none => exact hP
    | some r => exact hset h _ _ hP

theorem applyWrites_length (base : Nat) (h : Heap) (ws : List (Nat × Str × Value)) :
    (applyWrites base h ws).length = h.length :=
  applyWrites_keeps (P := fun h' => h'.length = h.length) base
    (fun _ _ _ hl => List.length_set.trans hl) h ws rfl

theorem applyWrites_below (base : Nat) (h : Heap) (ws : List (Nat × Str × Value)) (id : Nat) (hid : id < base) :
    (applyWrites base h ws)[id]? = h[id]? :=
  applyWrites_keeps (P := fun h' => h'[id]? = h[id]?) base
    (fun _ _ _ hl => (List.getElem?_set_ne (Nat.ne_of_gt (Nat.lt_add_right _ hid))).trans hl) h ws rfl

/-- every delivered object still has the content it was delivered with -/
def RInv (s : RState) : Prop := ∀ p ∈ s.delivered, s.heap[p.1]? = some p.2

theorem rinv_step (s : RState) (st : RStep) (h : RInv s) : RInv (rstep s st) := by
  intro p hp
  -- earlier deliveries lie below the old heap length, which `applyWrites` never touches; new ones are read back
  rcases List.mem_append.mp hp with hp | hp
  · have hlt : p.1 < s.heap.length := (List.getElem?_eq_some_iff.mp (h p hp)).1
    exact (applyWrites_below _ _ _ _ hlt).trans ((List.getElem?_append_left hlt).trans (h p hp))
  · obtain ⟨i, hi, rfl⟩ := List.mem_map.mp hp
    have hlen : s.heap.length + i < (rstep s st).heap.length := by
      rw [rstep, applyWrites_length, List.length_append]
      exact Nat.add_lt_add_left (List.mem_range.mp hi) _
    show (rstep s st).heap[_]? = some ((rstep s st).heap[_]?.getD [])
    rw [List.getElem?_eq_getElem hlen]
    rfl

theorem rinv_run (s : RState) (steps : List RStep) (h : RInv s) : RInv (rrun s steps) := by
  induction steps generalizing s with
  | nil => exact h
  | cons st rest ih => exact ih _ (rinv_step s st h)

theorem delivered_mono (s : RState) (steps : List RStep) : s.delivered <+: (rrun s steps).delivered := by
  induction steps generalizing s with
  | nil => exact List.prefix_rfl
  | cons st rest ih =>
    exact List.IsPrefix.trans (List.prefix_append _ _ : s.delivered <+: (rstep s st).delivered) (ih (rstep s st))

theorem assocGet_assocSet {β : Type} (k k' : Str) (v : β) (l : List (Str × β)) :
    assocGet k (assocSet k' v l) = if k' = k then some v else assocGet k l := by
  fun_induction assocSet k' v l with
  | case1 => rfl
  | case2 v' rest =>
    dsimp only [assocGet]
    by_cases h : k' = k
    · rw [if_pos h, if_pos h]
    · rw [if_neg h, if_neg h, if_neg h]
  | case3 k'' v'' rest h ih =>
    dsimp only [assocGet]
    rw [ih]
    by_cases h1 : k'' = k
    · rw [if_pos h1, if_neg fun h2 => h (h1.trans h2.symm), if_pos h1]
    · rw [if_neg h1, if_neg h1]

theorem assocSet_all {β : Type} {P : Str → β → Prop} {l : List (Str × β)}
    (hl : ∀ t x, assocGet t l = some x → P t x) (k : Str) (v : β) (hv : P k v) :
    ∀ t x, assocGet t (assocSet k v l) = some x → P t x := by
  intro t x h
  rw [assocGet_assocSet] at h
  by_cases hk : k = t
  · rw [if_pos hk] at h
    cases h
    exact hk ▸ hv
  · rw [if_neg hk] at h
    exact hl t x h

section
variable {Ty Prog : Type} [DecidableEq Ty]

/-- every cache entry is what the pure function would return -/
structure Consistent (b : Bridge Ty Prog) (g : Shared Ty Prog) : Prop where
  prep : ∀ text r, assocGet text g.prep = some r → r = b.prep text
  prog : ∀ text ty p, assocGet text g.prog = some (ty, p) → b.compile text ty = some p

omit [DecidableEq Ty] in
theorem consistent_empty (b : Bridge Ty Prog) : Consistent b {} :=
  ⟨nofun, nofun⟩

section
variable (b : Bridge Ty Prog) (g : Shared Ty Prog) (hg : Consistent b g)
include hg

omit [DecidableEq Ty] in
theorem prepCached_spec (text : Str) :
    (prepCached b.prep g text).2 = b.prep text ∧ Consistent b (prepCached b.prep g text).1 := by
  fun_cases prepCached b.prep g text with
  | case1 r hget => exact ⟨hg.prep text r hget, hg⟩ -- hit
  | case2 hget => exact ⟨rfl, assocSet_all hg.prep text _ rfl, hg.prog⟩ -- miss

theorem compileCached_spec (text : Str) (ty : Ty) :
    (compileCached b.compile g text ty).2 = b.compile text ty ∧ Consistent b (compileCached b.compile g text ty).1 := by
  have hstore (p' : Prog) (hc : b.compile text ty = some p') :
      Consistent b { g with prog := assocSet text (ty, p') g.prog } :=
    ⟨hg.prep, fun t ty₂ p => assocSet_all (P := fun t (x : Ty × Prog) => b.compile t x.1 = some x.2)
      (fun t x => hg.prog t x.1 x.2) text (ty, p') hc t (ty₂, p)⟩
  fun_cases compileCached b.compile g text ty with
  | case1 p hget => -- hit
    exact ⟨(hg.prog text ty p hget).symm, hg⟩
  | case2 ty' p hget hty p' hc | case4 hget p' hc => -- compiled
    exact ⟨hc.symm, hstore p' hc⟩
  | case3 ty' p hget hty hc | case5 hget hc => -- failed
    exact ⟨hc.symm, hg⟩

theorem evalCached_spec (text : Str) (row : Row) :
    (evalCached b g text row).2 = evalPure b text row ∧ Consistent b (evalCached b g text row).1 := by
  obtain ⟨h1, h2⟩ := prepCached_spec b g hg text
  obtain ⟨h3, h4⟩ := compileCached_spec b _ h2 (prepCached b.prep g text).2 (b.typeOf row)
  unfold evalCached evalPure
  rw [h1] at h3 h4 ⊢
  rw [h3]
  cases b.compile (b.prep text) (b.typeOf row) <;> exact ⟨rfl, h4⟩

theorem evalAllCached_spec (ts : List Str) (row : Row) :
    (evalAllCached b g ts row).2 = ts.map (fun t => evalPure b t row) ∧ Consistent b (evalAllCached b g ts row).1 := by
  induction ts generalizing g with
  | nil => exact ⟨rfl, hg⟩
  | cons t rest ih =>
    obtain ⟨h1, h2⟩ := evalCached_spec b g hg t row
    obtain ⟨h3, h4⟩ := ih _ h2
    exact ⟨congr (congrArg List.cons h1) h3, h4⟩

theorem instStep_spec {σ : Type} (i : Inst σ) (s : σ) (row : Row) :
    (instStep b i g s row).2 = instStepPure b i s row ∧ Consistent b (instStep b i g s row).1 :=
  ⟨congrArg (i.combine s row) (evalAllCached_spec b g hg i.exprs row).1, (evalAllCached_spec b g hg i.exprs row).2⟩

end

theorem runBoth_spec {σ τ : Type} (b : Bridge Ty Prog) (ia : Inst σ) (ib : Inst τ) (g : Shared Ty Prog)
    (hg : Consistent b g) (sa : σ) (sb : τ) (sched : List (Bool × Row)) :
    (runBoth b ia ib g sa sb sched).1 = runAlone b ia sa (rowsOf true sched) ∧
    (runBoth b ia ib g sa sb sched).2 = runAlone b ib sb (rowsOf false sched) := by
  fun_induction runBoth b ia ib g sa sb sched with
  | case1 => exact ⟨rfl, rfl⟩
  | case2 g sa sb r rest ih => -- row for A
    obtain ⟨h1, h2⟩ := instStep_spec b g hg ia sa r
    rw [h1] at ih ⊢
    exact ⟨congrArg (_ :: ·) (ih h2).1, (ih h2).2⟩
  | case3 g sa sb r rest ih => -- row for B
    obtain ⟨h1, h2⟩ := instStep_spec b g hg ib sb r
    rw [h1] at ih ⊢
    exact ⟨(ih h2).1, congrArg (_ :: ·) (ih h2).2⟩

end

end Caller
