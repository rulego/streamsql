/-
C04 — GROUP BY partitions each window's rows by the grouping key tuple.
The encoders are the *repaired* ones (length prefix in the aggregator, separator escaping in the
counting / session / global windows); the unrepaired code is reported by the check as a violation.
-/
import SsqlVerif.Proofs.GroupKeyTyped
import SsqlVerif.Proofs.GroupPartition
import SsqlVerif.Generated.Facts
set_option autoImplicit false

namespace C04
open GroupKey GroupBy

/-- Window keys (`getKey`, `extractSessionCompositeKey`, `getKeyAndValues`), cell level: for ALL
byte strings / NULLs — separators, backslashes, the text `\N`, empty strings included — two tuples
of equal arity with the same key are the same tuple. -/
theorem encBar_injective (t t' : List (Option Str)) (hl : t.length = t'.length)
    (h : encBar t = encBar t') : t = t' :=
  GroupKey.encBar_injective t t' hl h

/-- The escaping scheme itself, for any symbol type, escape symbol, separator and NULL letter. -/
theorem escJoin_injective {α : Type} [DecidableEq α] (esc sep nul : α)
    (hes : esc ≠ sep) (hne : nul ≠ esc) (hns : nul ≠ sep)
    (t t' : List (Option (List α))) (hl : t.length = t'.length)
    (h : escJoin esc sep nul t = escJoin esc sep nul t') : t = t' :=
  GroupKey.escJoin_injective hes hne hns t t' hl h

/-- Aggregator key, cell level: injective for all byte strings / NULLs and every arity. -/
theorem encAgg_injective (t t' : List (Option Str)) (h : encAgg t = encAgg t') : t = t' :=
  GroupKey.encAgg_injective t t' h

/-! Typed level, one theorem per encoder: inside the property's quantifier (one scalar type per
column, NULL anywhere; float formatting injective — trusted Go `strconv`, hypothesis `fltOkT`)
equal keys mean equal tuples (NULL = missing): values that differ are never merged. -/

theorem encCounting_injective (t t' : List Val) (ht : sameTypeT t t' = true) (hf : fltOkT t t')
    (h : encCounting t = encCounting t') : normTuple t = normTuple t' :=
  encWindow_map_injective _ renderCast renderCast_injective t t' ht hf h

theorem encSession_injective (t t' : List Val) (ht : sameTypeT t t' = true) (hf : fltOkT t t')
    (h : encSession t = encSession t') : normTuple t = normTuple t' :=
  encWindow_map_injective _ renderCast renderCast_injective t t' ht hf h

theorem encGlobal_injective (t t' : List Val) (ht : sameTypeT t t' = true) (hf : fltOkT t t')
    (h : encGlobal t = encGlobal t') : normTuple t = normTuple t' :=
  encWindow_map_injective _ renderV renderV_injective t t' ht hf h

theorem encAggregator_injective (t t' : List Val) (ht : sameTypeT t t' = true) (hf : fltOkT t t')
    (h : encAggregator t = encAggregator t') : normTuple t = normTuple t' :=
  map_render_injective renderV renderV_injective t t' ht hf (GroupKey.encAgg_injective _ _ h)

/-- Equal values are never split: tuples equal up to NULL = missing have the same key, in all
four encoders. -/
theorem enc_respects_eq (t t' : List Val) (h : normTuple t = normTuple t') :
    encCounting t = encCounting t' ∧ encSession t = encSession t' ∧
    encGlobal t = encGlobal t' ∧ encAggregator t = encAggregator t' := by
  have hm (f : Val → Option Str) (hf : ∀ v, f v.norm = f v) : t.map f = t'.map f := by
    simpa [normTuple, Function.comp_def, hf] using congrArg (List.map f) h
  simp only [encCounting, encSession, encGlobal, encAggregator, hm _ renderCast_norm, hm _ renderV_norm,
    and_self]

/-- Grouping by an encoded key is the partition by key tuple: for every batch (any size, any
interleaving of groups) and any encoder that is injective on the tuples occurring in it, the
model of `GroupAggregator.Add/GetResults` yields exactly one result per distinct tuple, carrying
that tuple and exactly the rows of that tuple. -/
theorem group_partition_of_injective {κ σ ι : Type} [DecidableEq σ] [DecidableEq κ] [DecidableEq ι]
    (enc : κ → σ) (rows : List (κ × ι))
    (hinj : ∀ r ∈ rows, ∀ r' ∈ rows, enc r.1 = enc r'.1 → r.1 = r'.1) :
    partitionHolds rows (GroupPart.results enc rows) = true :=
  GroupPart.results_partition enc rows hinj

theorem partition_of_typed {ι : Type} [DecidableEq ι] (enc : List Val → Str)
    (hinj : ∀ t t', sameTypeT t t' = true → fltOkT t t' → enc t = enc t' → normTuple t = normTuple t')
    (rows : List (List Val × ι)) (hN : ∀ r ∈ rows, normTuple r.1 = r.1)
    (hT : ∀ r ∈ rows, ∀ r' ∈ rows, sameTypeT r.1 r'.1 = true ∧ fltOkT r.1 r'.1) :
    partitionHolds rows (GroupPart.results enc rows) = true :=
  GroupPart.results_partition enc rows fun r hr r' hr' h => by
    rw [← hN r hr, ← hN r' hr']
    exact hinj r.1 r'.1 (hT r hr r' hr').1 (hT r hr r' hr').2 h

/-- Instance for the aggregator with its real (repaired) encoder, over typed rows: every batch
whose columns are typed as the property says is partitioned exactly by tuple. Rows carry the
normalised tuple (`Add` stores nil for a missing and for a nil column). -/
theorem group_partition_aggregator {ι : Type} [DecidableEq ι] (rows : List (List Val × ι))
    (hN : ∀ r ∈ rows, normTuple r.1 = r.1)
    (hT : ∀ r ∈ rows, ∀ r' ∈ rows, sameTypeT r.1 r'.1 = true ∧ fltOkT r.1 r'.1) :
    partitionHolds rows (GroupPart.results encAggregator rows) = true :=
  partition_of_typed encAggregator encAggregator_injective rows hN hT

/-- The same grouping step (`GroupPart.results`) keyed by each of the three window encoders. The
windows' own buffering is not modelled here (counting window: C09). -/
theorem group_partition_window {ι : Type} [DecidableEq ι] (rows : List (List Val × ι))
    (hN : ∀ r ∈ rows, normTuple r.1 = r.1)
    (hT : ∀ r ∈ rows, ∀ r' ∈ rows, sameTypeT r.1 r'.1 = true ∧ fltOkT r.1 r'.1) :
    partitionHolds rows (GroupPart.results encCounting rows) = true ∧
    partitionHolds rows (GroupPart.results encSession rows) = true ∧
    partitionHolds rows (GroupPart.results encGlobal rows) = true :=
  ⟨partition_of_typed encCounting encCounting_injective rows hN hT,
   partition_of_typed encSession encSession_injective rows hN hT,
   partition_of_typed encGlobal encGlobal_injective rows hN hT⟩

-- the colliding pairs of the unrepaired encoders are separated; plain values encode as themselves; NULL ≠ "" ≠ "\N"
example : encBar [some "x|y".toList, some "z".toList] = "x\\|y|z".toList := by decide +kernel
example : encBar [some "x".toList, some "y|z".toList] = "x|y\\|z".toList := by decide +kernel
example : encBar [some "alice".toList, some "30".toList] = "alice|30".toList := by decide +kernel
example : encBar [none] ≠ encBar [some []] ∧ encBar [none] ≠ encBar [some "\\N".toList] := by decide +kernel
example : encCounting [] = "__global__".toList ∧ encCounting [.str "us".toList] = "us".toList := by decide +kernel
example : encAgg [some ['x', Char.ofNat 0x1f, 'y'], some ['z']]
    ≠ encAgg [some ['x'], some ['y', Char.ofNat 0x1f, 'z']] := by decide +kernel
example : encAgg [none] ≠ encAgg [some aggNull] := by decide +kernel
example : sameTypeT [.str ['a'], .null] [.missing, .str []] = true := by decide +kernel
example : partitionHolds [(1, 10), (2, 11), (1, 12)]
    (GroupPart.results (fun n : Nat => n) [(1, 10), (2, 11), (1, 12)]) = true := by decide +kernel
-- a colliding encoder breaks the partition (so the hypothesis of `group_partition_of_injective` is needed)
example : partitionHolds [(1, 10), (2, 11)] (GroupPart.results (fun _ : Nat => 0) [(1, 10), (2, 11)]) = false := by decide +kernel

end C04

/-! tie to the source. `"("` is not part of the key: a
GROUP BY entry that contains `(` is a computed expression and is never read as a path. -/
theorem C04.facts_encoders :
    Facts.aggregator_groupKeySep = "\x1f" ∧ Facts.aggregator_nullGroupKeyMarker = "\x00NULL" ∧
    Facts.aggregator_groupKeySegment_strlits = [":"] ∧
    Facts.window_groupKeyPartSep = "|" ∧ Facts.window_groupKeyNullPart = "\\N" ∧
    Facts.window_CountingWindow_getKey_strlits = ["__global__"] ∧
    Facts.window_extractSessionCompositeKey_strlits = ["default"] ∧
    Facts.window_GlobalWindow_getKeyAndValues_strlits = ["__global__", "(", "%v"] ∧
    Facts.window_escapeKeyPart_strlits = ["\\|", "\\", "|", "\\"] :=
  ⟨rfl, rfl, rfl, rfl, rfl, rfl, rfl, rfl, rfl⟩
