/-
The ALLOWEDLATENESS extension of the sliding model.  With ALLOWEDLATENESS = 0 it coincides with the base model
step by step, so the C08 theorems about `Sliding.run` are theorems about the model the test driver runs.
What a late update re-delivers (C02).
-/
import SsqlVerif.Model.SlidingLate
import SsqlVerif.Proofs.Sliding
set_option autoImplicit false

namespace SlidingLate
open Wm Tumbling Sliding

structure L0 (s : SWL) : Prop where
  hl : s.lateness = 0
  hf : s.fired = []

/-- op language of the extension (same ops as the base model) -/
def step (s : SWL) : Sliding.Op → SWL × List Emission
  | .add r now => stepAdd s r now none
  | .addNoTs => (s, [])
  | .tick idle now => (tick s idle now, [])
  | .pop => (stepPop s, [])
  | .iter => stepIter s

def run (s : SWL) : List Sliding.Op → SWL × List Emission
  | [] => (s, [])
  | op :: ops => ((run (step s op).1 ops).1, (step s op).2 ++ (run (step s op).1 ops).2)

/-- the extension runs the base model's iteration and, besides, registers what fired or (at the end of a pass)
drops the expired entries -/
theorem stepIter_base (s : SWL) :
    (stepIter s).1.base = (Sliding.stepIter s.base).1 ∧ (stepIter s).2 = (Sliding.stepIter s.base).2 ∧
    (stepIter s).1.lateness = s.lateness ∧
    ((stepIter s).1.fired = register s (Sliding.stepIter s.base).2 ∨
     (∃ w, s.base.trigW = some w ∧ (Sliding.stepIter s.base).2 = [] ∧
        (stepIter s).1.fired = s.fired.filter (fun f => !decide (f.close ≤ w))) ∨
     ((Sliding.stepIter s.base).2 = [] ∧ (stepIter s).1.fired = s.fired)) := by
  have hb : ∀ w c, s.base.trigW = some w → s.base.cur = some c →
      Sliding.stepIter s.base = if c + s.base.size ≤ w then Sliding.fireOrSkip s.base c
        else ({ s.base with trigW := none, doneW := some w }, []) := by
    intro w c htr hcur
    simp only [Sliding.stepIter, htr, hcur]
  fun_cases stepIter s
  case case1 w c hcur htr hw =>  -- fire or skip
    rw [hb w c htr hcur, if_pos hw]
    exact ⟨rfl, rfl, rfl, Or.inl rfl⟩
  case case2 w c hcur htr hw =>  -- end of pass
    rw [hb w c htr hcur, if_neg hw]
    exact ⟨rfl, rfl, rfl, Or.inr (Or.inl ⟨w, htr, rfl, rfl⟩)⟩
  case case3 hno =>  -- no pass or no slot
    have hnil : (Sliding.stepIter s.base).2 = [] := by
      rcases Sliding.stepIter_cases s.base with ⟨w, c, htr, hcur, _⟩ | ⟨w, c, htr, hcur, _⟩ | h | h
      · exact absurd hcur (hno w c htr)
      · exact absurd hcur (hno w c htr)
      all_goals rw [h]
    exact ⟨rfl, hnil.symm, rfl, Or.inr (Or.inr ⟨hnil, rfl⟩)⟩

theorem step_lateness (s : SWL) (op : Sliding.Op) : (step s op).1.lateness = s.lateness := by
  cases op with
  | iter => exact (stepIter_base s).2.2.1
  | _ => rfl

theorem lateTargets_l0 (s : SWL) (r : Row) (now : Int) (h : L0 s) : lateTargets s r now = [] := by
  unfold lateTargets
  rw [h.hl]
  simp

theorem step_l0 (s : SWL) (op : Sliding.Op) (h : L0 s) :
    (step s op).1.base = (Sliding.step s.base op).1 ∧ (step s op).2 = (Sliding.step s.base op).2 ∧ L0 (step s op).1 := by
  cases op with
  | add r now =>
    have ht := lateTargets_l0 s r now h
    refine ⟨?_, ?_, h.hl, ?_⟩
    · show addBase s r now = _
      unfold addBase
      rw [ht]
      rfl
    · show (lateTargets s r now).map _ = []
      rw [ht]
      rfl
    · show updFired s _ r = []
      unfold updFired
      rw [h.hf]
      rfl
  | iter =>
    obtain ⟨h1, h2, h3, h4⟩ := stepIter_base s
    refine ⟨h1, h2, h3.trans h.hl, ?_⟩
    show (stepIter s).1.fired = []
    rcases h4 with hf | ⟨_, _, _, hf⟩ | ⟨_, hf⟩ <;> rw [hf]
    · unfold register
      rw [h.hl, if_neg (Int.lt_irrefl 0)]
      exact h.hf
    · rw [h.hf]
      rfl
    · exact h.hf
  | addNoTs => exact ⟨rfl, rfl, h⟩
  | tick idle now => exact ⟨rfl, rfl, h.hl, h.hf⟩
  | pop => exact ⟨rfl, rfl, h.hl, h.hf⟩

theorem run_l0 (s : SWL) (ops : List Sliding.Op) (h : L0 s) :
    (run s ops).1.base = (Sliding.run s.base ops).1 ∧ (run s ops).2 = (Sliding.run s.base ops).2 := by
  induction ops generalizing s with
  | nil => exact ⟨rfl, rfl⟩
  | cons op ops ih =>
    obtain ⟨h1, h2, h3⟩ := step_l0 s op h
    obtain ⟨i1, i2⟩ := ih (step s op).1 h3
    simp only [run, Sliding.run]
    rw [h1] at i1 i2
    exact ⟨i1, by rw [h2, i2]⟩

theorem mem_lateTargets (s : SWL) (r : Row) (now : Int) (f : Fired) :
    f ∈ lateTargets s r now ↔ Sliding.lateNow s.base r now = true ∧ 0 < s.lateness ∧ f ∈ s.fired ∧
      inSlot s.base.size f.start r = true ∧ stillOpen (Sliding.wmAfter s.base r now).cur f = true := by
  unfold lateTargets candidates
  split
  · rename_i hc
    rw [Bool.and_eq_true, decide_eq_true_eq] at hc
    rw [List.mem_filter, Bool.and_eq_true]
    exact ⟨fun h => ⟨hc.1, hc.2, h.1, h.2.1, h.2.2⟩, fun h => ⟨h.2.2.1, h.2.2.2⟩⟩
  · rename_i hc
    exact ⟨fun h => (nomatch h), fun h => absurd (by rw [h.1, decide_eq_true h.2.1]; rfl) hc⟩

theorem late_emissions (s : SWL) (r : Row) (now : Int) (hint : Option Int) :
    ∀ e ∈ (stepAdd s r now hint).2, ∃ f ∈ s.fired,
      e.kind = .late ∧ e.start = f.start ∧ e.stop = f.start + s.base.size ∧
      inSlot s.base.size f.start r = true ∧ stillOpen (Sliding.wmAfter s.base r now).cur f = true ∧
      Sliding.lateNow s.base r now = true ∧ 0 < s.lateness ∧
      (∃ extra, e.rows = f.snap ++ extra ∧ (∀ x ∈ extra, inSlot s.base.size f.start x = true ∧ x ∉ f.snap) ∧
        (r ∈ f.snap ∨ r ∈ extra)) := by
  intro e he
  obtain ⟨f, hf, rfl⟩ := List.mem_map.mp he
  obtain ⟨hl, hlat, hm, hin, hop⟩ := (mem_lateTargets s r now f).mp hf
  refine ⟨f, hm, rfl, rfl, rfl, hin, hop, hl, hlat, _, rfl, fun x hx => ?_, ?_⟩
  · simpa using (List.mem_filter.mp hx).2
  · by_cases hs : r ∈ f.snap
    · exact Or.inl hs
    · exact Or.inr (List.mem_filter.mpr ⟨List.mem_append_right _ (List.mem_singleton.mpr rfl), by simp [hin, hs]⟩)

theorem every_open_window_redelivered (s : SWL) (r : Row) (now : Int) (hint : Option Int)
    (hl : Sliding.lateNow s.base r now = true) (hlat : 0 < s.lateness)
    (f : Fired) (hf : f ∈ s.fired) (hin : inSlot s.base.size f.start r = true)
    (hop : stillOpen (Sliding.wmAfter s.base r now).cur f = true) :
    ∃ e ∈ (stepAdd s r now hint).2, e.start = f.start ∧ e.kind = .late :=
  ⟨_, List.mem_map_of_mem ((mem_lateTargets s r now f).mpr ⟨hl, hlat, hf, hin, hop⟩), rfl, rfl⟩

end SlidingLate
