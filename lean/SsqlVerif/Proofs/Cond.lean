/-
C12, value level: Go's `float64(i)` (`round53`) is the identity strictly inside ±2^53 and maps no
integer from outside into it, so on guarded values the float64 comparison is the integer
comparison and a shortcut that answers agrees with the expr-lang table.
-/
import SsqlVerif.Model.Cond
set_option autoImplicit false
namespace Cond

theorem le_roundQR (q r half : Nat) : q ≤ roundQR q r half := by
  unfold roundQR
  split
  · exact Nat.le_refl _
  · split
    · exact Nat.le_succ _
    · split
      · exact Nat.le_refl _
      · exact Nat.le_succ _

theorem shift53_of_lt {n : Nat} (h : n < 2 ^ 53) : shift53 n = 0 := by
  unfold shift53
  by_cases h0 : n = 0
  · subst h0
    rfl
  · have := (Nat.log2_lt h0).2 h
    omega

theorem roundNat53_of_lt {n : Nat} (h : n < 2 ^ 53) : roundNat53 n = n := by
  rw [roundNat53, shift53_of_lt h, roundShift, if_pos rfl]

theorem le_roundNat53 {n : Nat} (h : 2 ^ 53 ≤ n) : 2 ^ 53 ≤ roundNat53 n := by
  have h0 : n ≠ 0 := Nat.ne_of_gt (Nat.lt_of_lt_of_le (Nat.two_pow_pos 53) h)
  have hlog := (Nat.le_log2 h0).2 h
  have hs : 52 + shift53 n = n.log2 := by
    unfold shift53
    omega
  have hs1 : 1 ≤ shift53 n := Nat.le_of_add_le_add_left (hs.symm ▸ hlog)
  have hq : 2 ^ 52 ≤ n / 2 ^ shift53 n := by
    rw [Nat.le_div_iff_mul_le (Nat.two_pow_pos _), ← Nat.pow_add, hs]
    exact Nat.log2_self_le h0
  rw [roundNat53, roundShift, if_neg (Nat.ne_of_gt hs1)]
  calc 2 ^ 53 = 2 ^ 52 * 2 ^ 1 := rfl
    _ ≤ 2 ^ 52 * 2 ^ shift53 n := Nat.mul_le_mul_left _ (Nat.pow_le_pow_right (by decide) hs1)
    _ ≤ _ := Nat.mul_le_mul_right _ (Nat.le_trans hq (le_roundQR ..))

theorem exactInt_iff {n : Int} : exactInt n = true ↔ -2 ^ 53 < n ∧ n < 2 ^ 53 :=
  decide_eq_true_iff

theorem round53_of_exact {i : Int} (h : exactInt i = true) : round53 i = i := by
  have := exactInt_iff.1 h
  rw [round53, roundNat53_of_lt (by omega)]
  split
  · next hneg => rw [Int.ofNat_natAbs_of_nonpos (Int.le_of_lt hneg), Int.neg_neg]
  · next hpos => exact Int.natAbs_of_nonneg (Int.not_lt.1 hpos)

theorem round53_of_not_exact {n : Int} (h : exactInt n = false) :
    (2 ^ 53 ≤ n ∧ 2 ^ 53 ≤ round53 n) ∨ (n ≤ -2 ^ 53 ∧ round53 n ≤ -2 ^ 53) := by
  have hn : 2 ^ 53 ≤ n.natAbs := by
    have := mt exactInt_iff.2 (ne_true_of_eq_false h)
    omega
  have := le_roundNat53 hn
  unfold round53
  split <;> omega

theorem round53_of_exact_image {n : Int} (h : exactInt (round53 n) = true) : round53 n = n := by
  cases hn : exactInt n with
  | true => exact round53_of_exact hn
  | false =>
    have := round53_of_not_exact hn
    have := exactInt_iff.1 h
    omega

theorem scale_pos : 0 < scale := Int.pow_pos (by decide)

theorem compareNum_scaled (a b : Int) (op : Op) :
    compareNum (.fin (a * scale)) op (.fin (b * scale)) = compareInt a op b := by
  cases op <;> simp only [compareNum, compareInt, F64.lt, F64.eq, Int.mul_lt_mul_right scale_pos,
    Int.mul_eq_mul_right_iff (Int.ne_of_gt scale_pos)]

theorem compareInt_round53 {x : Int} (hx : exactInt x = true) (n : Int) (op : Op) :
    compareInt x op (round53 n) = compareInt x op n := by
  cases hn : exactInt n with
  | true => rw [round53_of_exact hn]
  | false =>
    -- `n` and its image lie beyond ±2^53 on the same side, `x` lies inside
    have := round53_of_not_exact hn
    have := exactInt_iff.1 hx
    have : (round53 n < x ↔ n < x) ∧ (x < round53 n ↔ x < n) ∧ (x = round53 n ↔ x = n) := by omega
    cases op <;> simp only [compareInt, this]

theorem compareNum_ofInt {x : Int} (hx : exactInt x = true) (n : Int) (op : Op) :
    compareNum (F64.ofInt x) op (F64.ofInt n) = compareInt x op n := by
  rw [F64.ofInt, F64.ofInt, round53_of_exact hx, compareNum_scaled, compareInt_round53 hx]

theorem toFloat64FastInt_some {x : IntV} {f : F64} (h : toFloat64FastInt x = some f) :
    f = F64.ofInt x.val ∧ exactInt x.val = true := by
  cases x with
  | i v | i64 v | u v | u64 v =>
    simp only [toFloat64FastInt, Option.ite_none_right_eq_some, Option.some.injEq] at h
    exact ⟨h.2.symm, h.1⟩
  | i32 v =>
    cases h
    have := v.le_toInt
    have := v.toInt_lt
    refine ⟨rfl, exactInt_iff.2 ?_⟩
    simp only [IntV.val]
    omega
  | u32 v =>
    cases h
    have := v.toNat_lt
    refine ⟨rfl, exactInt_iff.2 ?_⟩
    simp only [IntV.val]
    omega
  | _ => cases h

theorem asGoInt_of_exact {x : IntV} (h : exactInt x.val = true) : x.asGoInt = x.val := by
  have hb := exactInt_iff.1 h
  cases x with
  | u v | u64 v =>
    simp only [IntV.asGoInt, IntV.val, wrap64]
    exact if_pos (Int.lt_trans hb.2 (by decide))
  | _ => rfl

theorem generalVal_of_fast {v : Val} {f : F64} (h : toFloat64Fast v = some f) (op : Op) {lit : Lit}
    (hl : ∀ t, lit ≠ .str t) : generalVal (some v) op lit = .ok (compareNum f op (litNum lit)) := by
  cases v with
  | flt w x =>
    cases h
    cases lit with
    | str t => exact absurd rfl (hl t)
    | _ => rfl
  | int x =>
    obtain ⟨rfl, hx⟩ := toFloat64FastInt_some h
    cases lit with
    | int n =>
      show Res.ok (compareInt x.asGoInt op n) = .ok (compareNum (F64.ofInt x.val) op (F64.ofInt n))
      rw [asGoInt_of_exact hx, compareNum_ofInt hx]
    | flt y => rfl
    | str t => exact absurd rfl (hl t)
  | _ => cases h

theorem fastVal_agrees {v : Val} {op : Op} {lit : Lit} {b : Bool}
    (h : fastVal v op lit = some b) : generalVal (some v) op lit = .ok b := by
  cases lit with
  | str t =>
    cases v
    all_goals cases h
    rfl
  | int n | flt y =>
    simp only [fastVal, fastNum] at h
    cases hf : toFloat64Fast v with
    | none =>
      rw [hf] at h
      cases h
    | some f =>
      rw [hf] at h
      cases h
      exact generalVal_of_fast hf op (fun _ => Lit.noConfusion)

theorem fastEval_agrees {c : Cmp} {row : Row} {b : Bool}
    (h : fastEval c row = some b) : generalCmp c row = .ok b := by
  unfold fastEval at h
  unfold generalCmp
  cases hg : row.get c.field with
  | none =>
    rw [hg] at h
    cases h
  | some v =>
    rw [hg] at h
    cases v with
    | null => cases h
    | _ => exact fastVal_agrees h

theorem fastAll_cons {row : Row} {c : Cmp} {cs : List Cmp} {bs : List Bool} :
    fastAll row (c :: cs) = some bs ↔
      ∃ b bs', fastEval c row = some b ∧ fastAll row cs = some bs' ∧ bs = b :: bs' := by
  rw [fastAll]
  cases fastEval c row
  all_goals cases fastAll row cs
  all_goals simp [eq_comm]

theorem chainFrom_eval {isAnd : Bool} {row : Row} (cs : List Cmp) :
    ∀ (acc : Pred) (a : Bool) (bs : List Bool),
      generalEval acc row = .ok a → fastAll row cs = some bs →
      generalEval (chainFrom isAnd acc cs) row = .ok (combine isAnd (a :: bs)) := by
  induction cs with
  | nil =>
    intro acc a bs hacc hall
    cases hall
    rw [chainFrom, hacc]
    cases isAnd <;> simp [combine]
  | cons c cs ih =>
    intro acc a bs hacc hall
    obtain ⟨b1, bs', h1, h2, rfl⟩ := fastAll_cons.1 hall
    have hstep : generalEval (if isAnd then Pred.and acc (.cmp c) else Pred.or acc (.cmp c)) row
        = .ok (combine isAnd [a, b1]) := by
      cases isAnd
      all_goals cases a
      all_goals simp [generalEval, hacc, fastEval_agrees h1, Res.and, Res.or, combine]
    rw [chainFrom, ih _ _ bs' hstep h2]
    cases isAnd <;> simp [combine, Bool.and_assoc, Bool.or_assoc]

theorem fastCompound_agrees {isAnd : Bool} {cs : List Cmp} {row : Row} {b : Bool} {p : Pred}
    (hp : chainPred isAnd cs = some p)
    (h : fastCompound isAnd cs row = some b) : generalEval p row = .ok b := by
  cases cs with
  | nil => cases hp
  | cons c cs =>
    cases hp
    obtain ⟨bs, hall, rfl⟩ := Option.map_eq_some_iff.1 h
    obtain ⟨b1, bs', h1, h2, rfl⟩ := fastAll_cons.1 hall
    exact chainFrom_eval cs (.cmp c) b1 bs' (fastEval_agrees h1) h2

/-- the shortcuts of a condition were compiled from the predicate the program evaluates -/
def CondM.Sound (c : CondM) : Prop :=
  (∀ f, c.fast = some f → c.pred = .cmp f) ∧
  (∀ isAnd parts, c.compound = some (isAnd, parts) → chainPred isAnd parts = some c.pred)

theorem fastPath_agrees {c : CondM} (hs : c.Sound) {row : Row} {b : Bool}
    (h : c.fastPath row = some b) : generalEval c.pred row = .ok b := by
  unfold CondM.fastPath at h
  cases hc : c.compound with
  | some x =>
    rw [hc] at h
    exact fastCompound_agrees (hs.2 x.1 x.2 hc) h
  | none =>
    rw [hc] at h
    cases hf : c.fast with
    | none =>
      rw [hf] at h
      cases h
    | some f =>
      rw [hf] at h
      rw [hs.1 f hf]
      exact fastEval_agrees h

end Cond
