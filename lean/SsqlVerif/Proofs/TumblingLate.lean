/-
Consequences of `Hist` for C02: no early delivery, and what a late update re-delivers.
-/
import SsqlVerif.Proofs.TumblingHist
set_option autoImplicit false

namespace Tumbling
open Wm

/-- a registered interval has been passed, and buffered rows are at or after the current slot -/
theorem Hist.apart {s : TW} {es : List Emission} (hh : Hist s es) (hg : Good s) : Apart s := by
  intro f hfm x hx
  obtain ⟨c, hc, h1, _⟩ := hh.fired_passed f hfm
  have h2 := hg.hdata c hc x hx
  cases h : inSlot s.size f.start x with
  | false => rfl
  | true => exact absurd (Int.le_trans h1 h2) (Int.not_le.mpr ((inSlot_iff _ _ _).mp h).2)

theorem late_update_step (s : TW) (es : List Emission) (r : Row) (now : Int) (hg : Good s) (hh : Hist s es)
    (f : Fired) (h : fate s r now = .lateUpdate f) :
    (stepAdd s r now).2 = [{ kind := .late, start := f.start, stop := f.start + s.size, rows := f.snap ++ [r] }] ∧
    lastFor f.start es = some f.snap ∧ inSlot s.size f.start r = true ∧ lateNow s r now = true ∧
    stillOpen (wmAfter s r now).cur f = true := by
  obtain ⟨hl, _, hff⟩ := fate_lateUpdate s r now f h
  obtain ⟨hmem, hin, hopen⟩ := findFired_mem s r now f hff
  refine ⟨?_, hh.hsnap f hmem, hin, hl, hopen⟩
  rcases stepAdd_cases s r now with ⟨hq, _⟩ | ⟨g, hg', he, _⟩
  · exact absurd h (hq f)
  rw [h] at hg'
  cases hg'
  rw [he]
  unfold lateRows
  rw [List.filter_append, List.filter_eq_nil_iff.mpr fun x hx => by rw [hh.apart hg f hmem x hx]; decide]
  simp [hin]

theorem no_early (s : TW) (es : List Emission) (hh : Hist s es) : ∀ e ∈ es, leOpt e.stop s.wm.cur := by
  intro e he
  obtain ⟨c, _, h1, y, hy, hcy⟩ := (hh.hem e he).hpassed
  refine ⟨y, hy, ?_⟩
  rw [(hh.hem e he).hstop]
  exact Int.le_trans h1 hcy

end Tumbling
