/-
Helper lemmas for C14: every analytic state machine computes its function's definition over
the whole history.  The state after a history is a closed-form function of it (lag, latest,
changed_col) or tied to it by an invariant (acc_*, changed_cols, had_changed); either way the
fact is carried step by step, `Machine.run_inv_init`.
-/
import SsqlVerif.Model.Analytic
import SsqlVerif.Spec.Analytic
set_option autoImplicit false

namespace Analytic
open Spec

namespace Machine
variable {σ α β : Type} (m : Machine σ α β)

theorem run_append (s : σ) (xs ys : List α) : m.run s (xs ++ ys) = m.run (m.run s xs) ys := by
  induction xs generalizing s with
  | nil => rfl
  | cons x xs ih => exact ih _

theorem run_snoc (s : σ) (xs : List α) (a : α) : m.run s (xs ++ [a]) = (m.step (m.run s xs) a).1 :=
  run_append m s xs [a]

/-- `W` restricts the inputs for which a step must carry `P` (the fixed arity of the
`changed_cols` / `had_changed` argument tuples) -/
theorem run_inv_init (W : α → Prop) (P : σ → List α → Prop) (h0 : P m.init [])
    (hstep : ∀ s h a, W a → P s h → P (m.step s a).1 (h ++ [a]))
    (hist : List α) (hw : ∀ a ∈ hist, W a) : P (m.run m.init hist) hist := by
  suffices ∀ (s : σ) (h : List α), P s h → P (m.run s hist) (h ++ hist) from this m.init [] h0
  induction hist with
  | nil =>
    intro s h hp
    rwa [List.append_nil]
  | cons a as ih =>
    intro s h hp
    rw [List.append_cons]
    exact ih (fun b hb => hw b (List.mem_cons_of_mem a hb)) _ _ (hstep s h a (hw a List.mem_cons_self) hp)

theorem run_eq (f : List α → σ) (h0 : f [] = m.init) (hstep : ∀ h a, (m.step (f h) a).1 = f (h ++ [a]))
    (hist : List α) : m.run m.init hist = f hist :=
  run_inv_init m (fun _ => True) (fun s h => s = f h) h0.symm (fun _ h a _ hs => hs ▸ hstep h a) hist
    (fun _ _ => trivial)

/-- the shape every arm of `callStep` has: step the machine on the mapped row, wrap state and value -/
theorem step_run_wrap {ρ γ δ : Type} {g : ρ → α} {xs : List ρ} {r : ρ} {v : β}
    (hout : m.out (xs.map g) (g r) = v) (C : σ → γ) (O : β → δ) :
    Prod.map C O (m.step (m.run m.init (xs.map g)) (g r)) = (C (m.run m.init ((xs ++ [r]).map g)), O v) := by
  rw [List.map_append, List.map_cons, List.map_nil, m.run_snoc, ← hout]
  rfl

end Machine

section lastN
variable {γ : Type}

theorem lastN_eq (k : Nat) (l : List γ) : lastN k l = (l.reverse.take k).reverse := by
  rw [List.take_reverse, List.reverse_reverse, lastN]

/-- truncating before appending loses nothing -/
theorem lastN_push (k : Nat) (l : List γ) (v : γ) : lastN k (lastN k l ++ [v]) = lastN k (l ++ [v]) := by
  cases k with
  | zero => simp [lastN_eq]
  | succ k => simp [lastN_eq, List.take_take]

end lastN

theorem headD_eq_getD {γ : Type} (l : List γ) (d : γ) : l.headD d = l.getD 0 d := by
  cases l <;> rfl

theorem tail_getD {γ : Type} (l : List γ) (j : Nat) (d : γ) : l.tail.getD j d = l.getD (j + 1) d := by
  cases l <;> rfl

theorem any_congr_mem {γ : Type} (l : List γ) (p q : γ → Bool) (h : ∀ a ∈ l, p a = q a) : l.any p = l.any q := by
  induction l with
  | nil => rfl
  | cons a l ih =>
    rw [List.any_cons, List.any_cons, h a List.mem_cons_self, ih fun b hb => h b (List.mem_cons_of_mem a hb)]

theorem length_of_mem_map {ρ γ δ : Type} {cols : List γ} {f : ρ → γ → δ} {hist : List ρ} :
    ∀ r ∈ hist.map (fun h => cols.map (f h)), r.length = cols.length := by
  intro r hr
  obtain ⟨_, _, rfl⟩ := List.mem_map.1 hr
  exact List.length_map _

section
variable {ν : Type}

theorem lagResult_eq (k : Nat) (hk : 1 ≤ k) (h : List (Val ν)) (d : Val ν) :
    lagResult k h d = (match h.reverse[k - 1]? with | some v => v | none => d) := by
  cases k with
  | zero => exact absurd hk (by decide)
  | succ j =>
    unfold lagResult
    by_cases hl : j + 1 ≤ h.length
    · have lt : h.length - (j + 1) < h.length := Nat.sub_lt (Nat.lt_of_lt_of_le (Nat.succ_pos j) hl) (Nat.succ_pos j)
      rw [if_pos hl, Nat.add_sub_cancel, List.getElem?_reverse hl, Nat.sub_sub, Nat.add_comm 1 j,
        List.getD_eq_getElem?_getD, List.getElem?_eq_getElem lt]
      rfl
    · have hlen : h.reverse.length ≤ j := Nat.le_trans (Nat.le_of_eq List.length_reverse) (Nat.le_of_not_lt hl)
      rw [if_neg hl, Nat.add_sub_cancel, List.getElem?_eq_none hlen]

/-- syntactically the list `lagSpec` indexes into -/
def recs (ign : Bool) (hist : List (LagIn ν)) : List (Val ν) := (hist.map (·.val)).filter (recorded ign)

theorem recs_snoc (ign : Bool) (hist : List (LagIn ν)) (a : LagIn ν) :
    recs ign (hist ++ [a]) = if recorded ign a.val then recs ign hist ++ [a.val] else recs ign hist := by
  unfold recs
  cases h : recorded ign a.val <;> simp [List.filter_append, h]

theorem lag_state (k : Nat) (ign : Bool) (hist : List (LagIn ν)) :
    (lagMachine k ign).run (lagMachine k ign).init hist = lastN k (recs ign hist) := by
  refine Machine.run_eq _ (fun h => lastN k (recs ign h)) (by simp [lagMachine, recs, lastN]) (fun h a => ?_) hist
  show lagPush k ign (lastN k (recs ign h)) a.val = _
  rw [recs_snoc, lagPush]
  split
  · exact lastN_push k _ _
  · rfl

theorem lag_out (k : Nat) (hk : 1 ≤ k) (ign : Bool) (hist : List (LagIn ν)) (cur : LagIn ν) :
    (lagMachine k ign).out hist cur = lagSpec k ign hist cur := by
  unfold Machine.out
  rw [lag_state]
  show lagResult k (lastN k _) cur.dflt = _
  rw [lagResult_eq k hk, lastN_eq, List.reverse_reverse, List.getElem?_take_of_lt (Nat.sub_lt hk Nat.one_pos)]
  rfl

theorem effOffset_pos (n : Int) : 1 ≤ effOffset n := by
  unfold effOffset
  split
  · exact Int.pos_iff_toNat_pos.1 ‹0 < n›
  · exact Nat.le_refl 1

/-- syntactically the filter inside `latestSpec` -/
def nonNulls (vals : List (Val ν)) : List (Val ν) := vals.filter (fun v => !v.isNull)

theorem latestUpd_getLast (l : List (Val ν)) (v : Val ν) :
    latestUpd (nonNulls l).getLast? v = (nonNulls (l ++ [v])).getLast? := by
  unfold latestUpd nonNulls
  cases h : v.isNull <;> simp [h, List.filter_append]

theorem latest_state (hist : List (LagIn ν)) :
    (latestMachine (ν := ν)).run latestMachine.init hist = (nonNulls (hist.map (·.val))).getLast? := by
  refine Machine.run_eq latestMachine (fun h => (nonNulls (h.map (·.val))).getLast?) rfl (fun h a => ?_) hist
  show latestUpd _ a.val = _
  rw [latestUpd_getLast, List.map_append]
  rfl

theorem latest_out (hist : List (LagIn ν)) (cur : LagIn ν) :
    (latestMachine (ν := ν)).out hist cur = latestSpec hist cur := by
  unfold Machine.out
  rw [latest_state]
  show latestRes (latestUpd _ cur.val) cur.dflt = _
  rw [latestUpd_getLast]
  rfl

theorem baseline_snoc (ign : Bool) (col : List (Val ν)) (v : Val ν) :
    baseline ign (col ++ [v]) = if recorded ign v then some v else baseline ign col := by
  unfold baseline
  cases h : recorded ign v <;> simp [h, List.filter_append]

theorem baseline_single (ign : Bool) (x : Val ν) : (baseline ign [x]).getD .null = x := by
  cases ign
  all_goals cases x
  all_goals rfl

theorem column_snoc (j : Nat) (hist : List (List (Val ν))) (r : List (Val ν)) :
    column j (hist ++ [r]) = column j hist ++ [r.getD j .null] :=
  List.map_append

theorem afterLastReset_snoc (hr : Bool) (rows : List (AccIn ν)) (a : AccIn ν) :
    afterLastReset hr (rows ++ [a]) = if hr && a.reset then [] else afterLastReset hr rows ++ [a] := by
  cases hr with
  | false => rfl
  | true => cases h : a.reset <;> simp [afterLastReset, h]

theorem dropWhile_isEmpty (seg : List (AccIn ν)) :
    (seg.dropWhile (fun a => !a.start)).isEmpty = !seg.any (·.start) := by
  induction seg with
  | nil => rfl
  | cons a seg ih => cases h : a.start <;> simp [h, ih]

theorem fromFirstStart_snoc (hs : Bool) (seg : List (AccIn ν)) (a : AccIn ν) :
    fromFirstStart hs (seg ++ [a]) =
      if hs && !a.start && !seg.any (·.start) then fromFirstStart hs seg
      else fromFirstStart hs seg ++ [a] := by
  cases hs with
  | false => rfl
  | true =>
    have hemp := dropWhile_isEmpty seg
    simp only [fromFirstStart, if_true, Bool.true_and]
    rw [List.dropWhile_append, hemp]
    cases hany : seg.any (·.start)
    · rw [hany] at hemp
      cases hst : a.start <;> simp [List.isEmpty_iff.1 hemp, hst]
    · simp

/-- the three things `accStep` can do with a row, on the counted values -/
theorem accCounted_snoc (hs hr : Bool) (rows : List (AccIn ν)) (a : AccIn ν) :
    accCounted hs hr (rows ++ [a]) =
      if hr && a.reset then []
      else if hs && !a.start && !(afterLastReset hr rows).any (·.start) then accCounted hs hr rows
      else accCounted hs hr rows ++ [a.val] := by
  unfold accCounted
  rw [afterLastReset_snoc]
  split
  · cases hs <;> rfl
  · rw [fromFirstStart_snoc]
    split <;> simp

theorem hcNewPrev_length (ign : Bool) (prev vals : List (Val ν)) :
    (hcNewPrev ign prev vals).length = vals.length := by
  induction vals generalizing prev with
  | nil => rfl
  | cons v vs ih => exact congrArg Nat.succ (ih prev.tail)

theorem hcNewPrev_get (ign : Bool) (prev vals : List (Val ν)) (j : Nat) (hj : j < vals.length) :
    (hcNewPrev ign prev vals).getD j .null =
      if recorded ign (vals.getD j .null) then vals.getD j .null else prev.getD j .null := by
  induction vals generalizing prev j with
  | nil => exact absurd hj (Nat.not_lt_zero j)
  | cons v vs ih =>
    cases j with
    | zero => exact congrArg (fun p => if recorded ign v then v else p) (headD_eq_getD prev .null)
    | succ j =>
      show (hcNewPrev ign prev.tail vs).getD j .null = if recorded ign (vs.getD j .null) then vs.getD j .null else _
      rw [← tail_getD]
      exact ih prev.tail j (Nat.lt_of_succ_lt_succ hj)

end

section
variable {ν : Type} [NumOps ν]

theorem chgStep_fst (ign : Bool) (col : List (Val ν)) (v : Val ν) :
    (chgStep ign (baseline ign col) v).1 = baseline ign (col ++ [v]) := by
  rw [baseline_snoc, chgStep]
  split <;> rfl

theorem chgStep_snd (ign : Bool) (col : List (Val ν)) (v : Val ν) :
    (chgStep ign (baseline ign col) v).2 = chgSpec ign col v := by
  rw [chgStep, chgSpec]
  cases recorded ign v
  · rfl
  · cases baseline ign col with
    | none => rfl
    | some p =>
      show (if (!aeq p v) = true then some v else none) = if aeq p v = true then none else some v
      cases aeq p v <;> rfl

theorem chg_state (ign : Bool) (hist : List (Val ν)) :
    (chgMachine ign).run (chgMachine ign).init hist = baseline ign hist :=
  Machine.run_eq _ (baseline ign) rfl (chgStep_fst ign) hist

theorem chg_out (ign : Bool) (hist : List (Val ν)) (v : Val ν) :
    (chgMachine ign).out hist v = chgSpec ign hist v := by
  unfold Machine.out
  rw [chg_state]
  exact chgStep_snd ign hist v

theorem changedCol_state (ign : Bool) (hist : List (Val ν)) :
    (changedColMachine ign).run (changedColMachine ign).init hist = baseline ign hist :=
  Machine.run_eq _ (baseline ign) rfl (chgStep_fst ign) hist

theorem changedCol_out (ign : Bool) (hist : List (Val ν)) (v : Val ν) :
    (changedColMachine ign).out hist v = changedColSpec ign hist v := by
  unfold Machine.out
  rw [changedCol_state]
  exact congrArg (·.getD .null) (chgStep_snd ign hist v)

theorem toNum_some_not_null (v : Val ν) (x : ν) (h : toNum v = some x) : v.isNull = false := by
  cases v <;> simp [toNum, Val.isNull] at h ⊢

def AccSt.withStarted (s : AccSt ν) (b : Bool) : AccSt ν := { s with started := b }

section
-- these statements carry the instance `[NumOps ν]` without using it
set_option linter.unusedSectionVars false
theorem withStarted_twice (s : AccSt ν) (a b : Bool) : (s.withStarted a).withStarted b = s.withStarted b := rfl
theorem withStarted_started (s : AccSt ν) (b : Bool) : (s.withStarted b).started = b := rfl
theorem withStarted_self (s : AccSt ν) : s.withStarted s.started = s := rfl
end

theorem accInit_withStarted_false : (accInit (ν := ν)).withStarted false = accInit := rfl

omit [NumOps ν] in
theorem accMark_eq (hs : Bool) (s : AccSt ν) : accMark hs s = s.withStarted (hs || s.started) := by
  cases hs <;> rfl

theorem accAdd_num (kind : AccKind) (s : AccSt ν) (v : Val ν) (x : ν) (hv : toNum v = some x) :
    accAdd kind s v = accAddNum kind s x := by
  rw [accAdd, hv]

theorem accAdd_other (kind : AccKind) (s : AccSt ν) (v : Val ν) (hv : toNum v = none) :
    accAdd kind s v = accAddOther kind s v := by
  rw [accAdd, hv]

theorem accAdd_started (kind : AccKind) (s : AccSt ν) (v : Val ν) : (accAdd kind s v).started = s.started := by
  cases hv : toNum v with
  | some x =>
    rw [accAdd_num kind s v x hv]
    cases kind <;> rfl
  | none =>
    rw [accAdd_other kind s v hv, accAddOther]
    split <;> rfl

theorem numsOf_snoc (vals : List (Val ν)) (v : Val ν) :
    numsOf (vals ++ [v]) = match toNum v with | some x => numsOf vals ++ [x] | none => numsOf vals := by
  unfold numsOf
  cases h : toNum v <;> simp [List.filterMap_append, h]

section
-- this statement carries the instance `[NumOps ν]` without using it
set_option linter.unusedSectionVars false
theorem foldBest_cons (b : ν → ν → Bool) (x : ν) (xs : List ν) :
    foldBest b (x :: xs) = some (xs.foldl (fun m v => if b v m then v else m) x) := rfl
end

theorem foldBest_snoc (b : ν → ν → Bool) (xs : List ν) (x : ν) :
    foldBest b (xs ++ [x]) = some (match foldBest b xs with | none => x | some m => if b x m then x else m) := by
  cases xs with
  | nil => rfl
  | cons y ys =>
    rw [List.cons_append, foldBest_cons, foldBest_cons, List.foldl_append]
    rfl

/-- the running extremum, if a number has been seen -/
def AccSt.best (s : AccSt ν) : Option ν := if s.hasNum then some s.num else none

theorem best_add (b : ν → ν → Bool) (s : AccSt ν) (x : ν) (nums : List ν) (h : s.best = foldBest b nums) :
    some (if !s.hasNum || b x s.num then x else s.num) = foldBest b (nums ++ [x]) := by
  rw [foldBest_snoc, ← h, AccSt.best]
  cases s.hasNum <;> rfl

omit [NumOps ν] in
theorem best_result (b : ν → ν → Bool) (s : AccSt ν) (nums : List ν) (h : s.best = foldBest b nums) :
    (if s.hasNum then Val.num s.num else Val.null) =
      match foldBest b nums with | some x => Val.num x | none => Val.null := by
  rw [← h, AccSt.best]
  cases s.hasNum <;> rfl

/-- what `accResult kind` reads of the state `s` is the aggregate of `vals` -/
def Summarises (kind : AccKind) (s : AccSt ν) (vals : List (Val ν)) : Prop :=
  match kind with
  | .sum => s.sum = (numsOf vals).foldl NumOps.add NumOps.zero
  | .count => s.count = (vals.filter (fun v => !v.isNull)).length
  | .avg => s.sum = (numsOf vals).foldl NumOps.add NumOps.zero ∧ s.count = (numsOf vals).length
  | .max => s.best = foldBest (fun v m => NumOps.lt m v) (numsOf vals)
  | .min => s.best = foldBest (fun v m => NumOps.lt v m) (numsOf vals)

theorem summarises_init (kind : AccKind) : Summarises kind (accInit (ν := ν)) [] := by
  cases kind
  case avg => exact ⟨rfl, rfl⟩
  all_goals rfl

theorem summarises_withStarted (kind : AccKind) (s : AccSt ν) (b : Bool) (vals : List (Val ν))
    (h : Summarises kind s vals) : Summarises kind (s.withStarted b) vals := by
  cases kind <;> exact h

theorem summarises_add (kind : AccKind) (s : AccSt ν) (vals : List (Val ν)) (v : Val ν)
    (h : Summarises kind s vals) : Summarises kind (accAdd kind s v) (vals ++ [v]) := by
  cases hv : toNum v with
  | none =>
    -- only `count` looks at a value that is not a number
    have hn : numsOf (vals ++ [v]) = numsOf vals := by rw [numsOf_snoc, hv]
    rw [accAdd_other kind s v hv]
    cases kind
    case count =>
      show (accAddOther .count s v).count = _
      rw [List.filter_append, List.length_append, ← h]
      cases hnull : v.isNull <;> simp [accAddOther, hnull]
    all_goals
      unfold Summarises
      rw [hn]
      exact h
  | some x =>
    have hn : numsOf (vals ++ [v]) = numsOf vals ++ [x] := by rw [numsOf_snoc, hv]
    rw [accAdd_num kind s v x hv]
    unfold Summarises
    rw [hn]
    cases kind
    case sum =>
      show NumOps.add s.sum x = _
      rw [List.foldl_append, ← h]
      rfl
    case avg =>
      show NumOps.add s.sum x = _ ∧ s.count + 1 = _
      rw [List.foldl_append, List.length_append, ← h.1, ← h.2]
      exact ⟨rfl, rfl⟩
    case count =>
      show s.count + 1 = _
      rw [List.filter_append, List.length_append, ← h]
      simp [toNum_some_not_null v x hv]
    case max | min => exact best_add _ s x _ h

theorem summarises_result (kind : AccKind) (s : AccSt ν) (vals : List (Val ν))
    (h : Summarises kind s vals) : accResult kind s = accAgg kind vals := by
  cases kind
  case sum => exact congrArg Val.num h
  case count => exact congrArg (fun n : Nat => Val.int n) h
  case avg =>
    show (if s.count = 0 then _ else _) = if _ then _ else _
    rw [← h.1, ← h.2]
  case max | min => exact best_result _ s _ h

/-- after `rows` the state knows whether the phase has started since the last reset, and the aggregate -/
def AccInv (kind : AccKind) (hs hr : Bool) (s : AccSt ν) (rows : List (AccIn ν)) : Prop :=
  s.started = (hs && (afterLastReset hr rows).any (·.start)) ∧ Summarises kind s (accCounted hs hr rows)

/-- the `started` flag after a row that does not reset (`b` = a start was seen before, `st` = the row
starts): `accStep` skips and keeps `hs && b`, or marks (`hs || ·`) and adds -/
theorem started_next : ∀ hs st b : Bool,
    (if hs && !st && !b then hs && b else hs || (hs && b)) = (hs && (b || st)) := by decide

theorem accStep_inv (kind : AccKind) (hs hr : Bool) (s : AccSt ν) (rows : List (AccIn ν)) (a : AccIn ν)
    (h : AccInv kind hs hr s rows) : AccInv kind hs hr (accStep kind hs hr s a) (rows ++ [a]) := by
  obtain ⟨hst, hsum⟩ := h
  unfold AccInv accStep
  rw [accCounted_snoc, afterLastReset_snoc]
  by_cases hreset : (hr && a.reset) = true
  · rw [if_pos hreset, if_pos hreset, if_pos hreset]
    exact ⟨by simp [accInit], summarises_init kind⟩
  · have hskip : accSkips hs s a = (hs && !a.start && !(afterLastReset hr rows).any (·.start)) := by
      unfold accSkips
      rw [hst]
      cases hs <;> rfl
    rw [if_neg hreset, if_neg hreset, if_neg hreset, hskip, List.any_append, List.any_cons, List.any_nil,
      Bool.or_false, ← started_next, ← hst]
    split
    · exact ⟨rfl, hsum⟩
    · rw [accMark_eq]
      exact ⟨accAdd_started .., summarises_add _ _ _ _ (summarises_withStarted _ _ _ _ hsum)⟩

theorem acc_state (kind : AccKind) (hs hr : Bool) (hist : List (AccIn ν)) :
    AccInv kind hs hr ((accMachine kind hs hr).run (accMachine kind hs hr).init hist) hist := by
  refine Machine.run_inv_init (accMachine kind hs hr) (fun _ => True) (AccInv kind hs hr) ?_
    (fun s h a _ => accStep_inv kind hs hr s h a) hist (fun _ _ => trivial)
  cases hs
  all_goals cases hr
  all_goals exact ⟨rfl, summarises_init kind⟩

theorem acc_out (kind : AccKind) (hs hr : Bool) (hist : List (AccIn ν)) (cur : AccIn ν) :
    (accMachine kind hs hr).out hist cur = accSpec kind hs hr hist cur :=
  summarises_result kind _ _ (accStep_inv kind hs hr _ hist cur (acc_state kind hs hr hist)).2

theorem colsStep_fst_get (ign : Bool) (st : List (Option (Val ν))) (vals : List (Val ν)) (j : Nat)
    (hj : j < vals.length) :
    (colsStep ign st vals).1.getD j none = (chgStep ign (st.getD j none) (vals.getD j .null)).1 := by
  induction vals generalizing st j with
  | nil => exact absurd hj (Nat.not_lt_zero j)
  | cons v vs ih =>
    cases j with
    | zero => exact congrArg (fun s => (chgStep ign s v).1) (headD_eq_getD st none)
    | succ j =>
      show (colsStep ign st.tail vs).1.getD j none = (chgStep ign (st.getD (j + 1) none) (vs.getD j .null)).1
      rw [← tail_getD]
      exact ih st.tail j (Nat.lt_of_succ_lt_succ hj)

/-- the outputs of `colsStep`, column by column (the shape of `changedColsSpec`) -/
theorem colsStep_snd (ign : Bool) (st : List (Option (Val ν))) (vals : List (Val ν)) :
    (colsStep ign st vals).2 =
      (List.range vals.length).map (fun j => (chgStep ign (st.getD j none) (vals.getD j .null)).2) := by
  induction vals generalizing st with
  | nil => rfl
  | cons v vs ih =>
    show (chgStep ign (st.headD none) v).2 :: (colsStep ign st.tail vs).2 = _
    rw [ih, List.length_cons, List.range_succ_eq_map, List.map_cons, List.map_map, headD_eq_getD]
    refine congrArg _ (List.map_congr_left fun j _ => ?_)
    rw [tail_getD]
    rfl

theorem changedCols_state (ign : Bool) (n : Nat) (hist : List (List (Val ν)))
    (hw : ∀ r ∈ hist, r.length = n) (j : Nat) (hj : j < n) :
    ((changedColsMachine ign).run (changedColsMachine ign).init hist).getD j none =
      baseline ign (column j hist) := by
  refine Machine.run_inv_init (changedColsMachine ign) (fun r => r.length = n)
    (fun s h => s.getD j none = baseline ign (column j h)) rfl ?_ hist hw
  intro s h a ha hs
  show (colsStep ign s a).1.getD j none = _
  rw [colsStep_fst_get ign s a j (ha ▸ hj), hs, column_snoc, chgStep_fst]

theorem changedCols_out (ign : Bool) (n : Nat) (hist : List (List (Val ν))) (cur : List (Val ν))
    (hw : ∀ r ∈ hist, r.length = n) (hc : cur.length = n) :
    (changedColsMachine ign).out hist cur = changedColsSpec ign hist cur := by
  show (colsStep ign _ cur).2 = _
  rw [colsStep_snd]
  refine List.map_congr_left fun j hj => ?_
  rw [changedCols_state ign n hist hw j (hc ▸ List.mem_range.1 hj), chgStep_snd]

theorem hcColChanged_eq (prev : List (Val ν)) (v : Val ν) : hcColChanged prev v = chgChanged prev.head? v := rfl

theorem hcChanged_any (ign : Bool) (prev vals : List (Val ν)) :
    hcChanged ign prev vals = (List.range vals.length).any (fun j =>
      recorded ign (vals.getD j .null) && chgChanged prev[j]? (vals.getD j .null)) := by
  induction vals generalizing prev with
  | nil => rfl
  | cons v vs ih =>
    rw [hcChanged, hcColChanged_eq, ih prev.tail, List.length_cons, List.range_succ_eq_map, List.any_cons,
      List.any_map, List.head?_eq_getElem?]
    congr 1
    · refine any_congr_mem _ _ _ fun j _ => ?_
      rw [List.getElem?_tail]
      rfl

/-- state after a non-empty history of fixed arity: per column the baseline (NULL if none) -/
def HcInv (ign : Bool) (n : Nat) (s : Option (List (Val ν))) (h : List (List (Val ν))) : Prop :=
  (h = [] → s = none) ∧
  (h ≠ [] → ∃ prev, s = some prev ∧ prev.length = n ∧
    ∀ j, j < n → prev.getD j .null = (baseline ign (column j h)).getD .null)

theorem hadChanged_state (ign : Bool) (n : Nat) (hist : List (List (Val ν)))
    (hw : ∀ r ∈ hist, r.length = n) :
    HcInv ign n ((hadChangedMachine ign).run (hadChangedMachine ign).init hist) hist := by
  refine Machine.run_inv_init (hadChangedMachine ign) (fun r => r.length = n)
    (HcInv ign n) ⟨fun _ => rfl, fun h => absurd rfl h⟩ ?_ hist hw
  intro s h a ha hs
  refine ⟨fun hnil => absurd hnil (List.append_ne_nil_of_right_ne_nil h (List.cons_ne_nil a [])), fun _ => ?_⟩
  cases h with
  | nil =>
    rw [hs.1 rfl]
    exact ⟨a, rfl, ha, fun j _ => (baseline_single ign _).symm⟩
  | cons r h =>
    obtain ⟨prev, hsp, hlen, hcol⟩ := hs.2 (List.cons_ne_nil r h)
    rw [hsp]
    refine ⟨hcNewPrev ign prev a, rfl, (hcNewPrev_length ign prev a).trans ha, fun j hj => ?_⟩
    rw [hcNewPrev_get ign prev a j (ha ▸ hj), column_snoc, baseline_snoc, hcol j hj]
    split <;> rfl

theorem hadChanged_out (ign : Bool) (n : Nat) (hist : List (List (Val ν))) (cur : List (Val ν))
    (hw : ∀ r ∈ hist, r.length = n) (hc : cur.length = n) :
    (hadChangedMachine ign).out hist cur = hadChangedSpec ign hist cur := by
  have hinv := hadChanged_state ign n hist hw
  cases hist with
  | nil => rfl
  | cons r hist =>
    obtain ⟨prev, hsp, hlen, hcol⟩ := hinv.2 (List.cons_ne_nil r hist)
    show (hcStep ign _ cur).2 = _
    rw [hsp]
    show hcChanged ign prev cur = (List.range cur.length).any _
    rw [hcChanged_any]
    refine any_congr_mem _ _ _ fun j hj => ?_
    have hjn : j < n := hc ▸ List.mem_range.1 hj
    rw [← hcol j hjn, List.getD_eq_getElem?_getD (l := prev), List.getElem?_eq_getElem (hlen ▸ hjn)]
    rfl

end
end Analytic
