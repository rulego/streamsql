/-
The invariant `GoodH` over the results the sliding state machine has delivered (C08).
-/
import SsqlVerif.Proofs.Sliding
set_option autoImplicit false

namespace Sliding
open Wm Tumbling

/-- a first firing of a slide-aligned interval with exactly the rows accepted so far (a prefix of the log) inside it -/
def EmOk (s : SW) (e : Emission) : Prop :=
  e.kind = .first ∧ e.stop = e.start + s.size ∧ s.slide ∣ e.start ∧ e.rows ≠ [] ∧
  ∃ pre, pre <+: s.acc ∧ e.rows = pre.filter (inSlot s.size e.start)

theorem emOk_mono (s s' : SW) (e : Emission) (h : EmOk s e) (hsz : s'.size = s.size) (hsl : s'.slide = s.slide)
    (hacc : s.acc <+: s'.acc) : EmOk s' e := by
  obtain ⟨h1, h2, h3, h4, pre, hp, hr⟩ := h
  refine ⟨h1, ?_, ?_, h4, pre, List.IsPrefix.trans hp hacc, ?_⟩
  · rw [hsz]
    exact h2
  · rw [hsl]
    exact h3
  · rw [hsz]
    exact hr

/-- the loop has advanced and the current slot is at or beyond `x`; an advanced slot is never re-seated -/
def Passed (s : SW) (x : Int) : Prop := s.advanced = true ∧ ∃ c, s.cur = some c ∧ x ≤ c

theorem Passed.le_cur {s : SW} {x c : Int} (h : Passed s x) (hc : s.cur = some c) : x ≤ c := by
  obtain ⟨_, c', hc', hx⟩ := h
  rw [hc] at hc'
  cases hc'
  exact hx

theorem passed_add (s : SW) (r : Row) (now : Int) (x : Int) (h : Passed s x) : Passed (stepAdd s r now) x := by
  obtain ⟨hadv, c, hc, hx⟩ := h
  refine ⟨hadv, c, ?_, hx⟩
  show some (curAfterAdd s r now) = some c
  rcases curAfterAdd_cases s r now with h | ⟨hfr, _⟩
  · rw [h]
    simp only [curInit, hc]
  · rw [hadv] at hfr
    cases hfr

/-- `es`: the results delivered on the way to state `s`, oldest first -/
structure GoodH (s : SW) (es : List Emission) : Prop where
  hpassed : ∀ e ∈ es, Passed s (e.start + s.slide)
  hincr : es.Pairwise (fun a b => a.start < b.start)
  hshape : ∀ e ∈ es, EmOk s e
  /-- every accepted row is in the result of every covering interval at or after its arrival slot that the loop
  has passed -/
  hcover : ∀ p ∈ s.accCur, ∀ k, s.slide ∣ k → p.2 ≤ k → inSlot s.size k p.1 = true →
            (∀ c, s.cur = some c → k < c) → ∃ e ∈ es, e.start = k ∧ p.1 ∈ e.rows

theorem goodH_init (size slide ooo : Int) : GoodH (init size slide ooo) [] :=
  ⟨fun _ h => (nomatch h), List.Pairwise.nil, fun _ h => (nomatch h), fun _ h => (nomatch h)⟩

theorem goodH_congr {s s' : SW} {es : List Emission} (h : GoodH s es) (h1 : s'.cur = s.cur)
    (h2 : s'.advanced = s.advanced) (h3 : s'.size = s.size) (h4 : s'.slide = s.slide) (h5 : s'.acc = s.acc)
    (h6 : s'.accCur = s.accCur) : GoodH s' es := by
  refine ⟨fun e he => ?_, h.hincr, fun e he => ?_, ?_⟩
  · unfold Passed
    rw [h1, h2, h4]
    exact h.hpassed e he
  · unfold EmOk
    rw [h3, h4, h5]
    exact h.hshape e he
  · rw [h1, h3, h4, h6]
    exact h.hcover

theorem goodH_add (s : SW) (r : Row) (now : Int) (es : List Emission) (hg : Good s) (hh : GoodH s es)
    (ht : 0 ≤ r.ts) : GoodH (stepAdd s r now) es := by
  obtain ⟨k, _, _, ha, hl⟩ := stepAdd_logs s r now
  refine ⟨fun e he => passed_add s r now _ (hh.hpassed e he), hh.hincr,
    fun e he => emOk_mono s _ e (hh.hshape e he) rfl rfl (ha ▸ List.prefix_append _ _), ?_⟩
  intro p hp k' hk' hpk hin hlt
  have hlt' : k' < curAfterAdd s r now := hlt _ rfl
  rw [hl] at hp
  rcases List.mem_append.mp hp with hp | hp
  · -- an older row: the slot may only have moved down
    refine hh.hcover p hp k' hk' hpk hin fun c hc => ?_
    have h2 := curAfterAdd_le_curInit s r now hg ht
    simp only [curInit, hc] at h2
    exact Int.lt_of_lt_of_le hlt' h2
  · -- the new row arrived at the slot the Add leaves
    obtain ⟨x, _, rfl⟩ := List.mem_map.mp hp
    exact absurd hlt' (Int.not_lt.mpr hpk)

theorem goodH_fireOrSkip (s : SW) (c : Int) (es : List Emission) (hg : Good s) (hh : GoodH s es)
    (hcur : s.cur = some c) : GoodH (fireOrSkip s c).1 (es ++ (fireOrSkip s c).2) := by
  have hsl := hg.hslide
  obtain ⟨h1, h2, _, h4, h5, _, h7, h8⟩ := fireOrSkip_frame s c
  have hpassed' : ∀ x, x ≤ c + s.slide → Passed (fireOrSkip s c).1 x := fun x hx => ⟨h2, _, h1, hx⟩
  have hold : ∀ e ∈ es, Passed (fireOrSkip s c).1 (e.start + (fireOrSkip s c).1.slide) ∧ EmOk (fireOrSkip s c).1 e :=
    fun e he => ⟨hpassed' _ (by
        rw [h5]
        exact Int.add_le_add_right (Int.le_of_lt (lt_of_add_le hsl ((hh.hpassed e he).le_cur hcur))) _),
      emOk_mono s _ e (hh.hshape e he) h4 h5 (h7 ▸ List.prefix_refl _)⟩
  -- the rows of `c` still buffered are the accepted rows in it
  have hrows : slotRows s c = s.acc.filter (inSlot s.size c) := by
    unfold slotRows
    rw [← filter_inSlot_of_geCur s.data, hg.hacc c hcur, filter_inSlot_of_geCur]
  -- a covering interval the loop has now passed was passed before, or is the slot just left
  have hcov : ∀ p ∈ (fireOrSkip s c).1.accCur, ∀ k, (fireOrSkip s c).1.slide ∣ k → p.2 ≤ k →
      inSlot (fireOrSkip s c).1.size k p.1 = true → (∀ c', (fireOrSkip s c).1.cur = some c' → k < c') →
      (∃ e ∈ es, e.start = k ∧ p.1 ∈ e.rows) ∨ (k = c ∧ p.1 ∈ slotRows s c) := by
    intro p hp k hk hpk hin hlt
    rw [h8] at hp
    rw [h5] at hk
    rw [h4] at hin
    have hkc := lattice_lt_succ k c s.slide hsl hk (hg.halign c hcur) (hlt _ h1)
    rcases Int.lt_or_le k c with hlt' | hge'
    · refine Or.inl (hh.hcover p hp k hk hpk hin fun c0 hc0 => ?_)
      rw [hcur] at hc0
      cases hc0
      exact hlt'
    · have hkeq : k = c := Int.le_antisymm hkc hge'
      subst hkeq
      refine Or.inr ⟨rfl, ?_⟩
      rw [hrows]
      exact List.mem_filter.mpr ⟨hg.hlog ▸ List.mem_map_of_mem hp, hin⟩
  rcases fireOrSkip_emits s c with ⟨he, hnil⟩ | ⟨he, hne⟩ <;> rw [he]
  · rw [List.append_nil]
    refine ⟨fun e h => (hold e h).1, hh.hincr, fun e h => (hold e h).2, fun p hp k hk hpk hin hlt => ?_⟩
    rcases hcov p hp k hk hpk hin hlt with h | ⟨_, h⟩
    · exact h
    · rw [hnil] at h
      cases h
  · refine ⟨fun e h => ?_, ?_, fun e h => ?_, fun p hp k hk hpk hin hlt => ?_⟩
    · rcases List.mem_append.mp h with h | h
      · exact (hold e h).1
      · rw [List.mem_singleton.mp h]
        exact hpassed' _ (h5 ▸ Int.le_refl _)
    · rw [List.pairwise_append]
      refine ⟨hh.hincr, List.pairwise_singleton _ _, fun a ha b hb => ?_⟩
      rw [List.mem_singleton.mp hb]
      exact lt_of_add_le hsl ((hh.hpassed a ha).le_cur hcur)
    · rcases List.mem_append.mp h with h | h
      · exact (hold e h).2
      · rw [List.mem_singleton.mp h]
        exact ⟨rfl, by rw [h4], h5 ▸ hg.halign c hcur, hne, s.acc, h7 ▸ List.prefix_refl _, h4 ▸ hrows⟩
    · rcases hcov p hp k hk hpk hin hlt with ⟨e, he', h⟩ | ⟨hk', h⟩
      · exact ⟨e, List.mem_append_left _ he', h⟩
      · exact ⟨_, List.mem_append_right _ (List.mem_singleton.mpr rfl), hk'.symm, h⟩

theorem goodH_step (s : SW) (op : Op) (es : List Emission) (hg : Good s) (hh : GoodH s es)
    (hok : OpOk op) : GoodH (step s op).1 (es ++ (step s op).2) := by
  cases op with
  | add r now => exact (List.append_nil es).symm ▸ goodH_add s r now es hg hh hok
  | addNoTs => exact (List.append_nil es).symm ▸ hh
  | tick idle now => exact (List.append_nil es).symm ▸ goodH_congr hh rfl rfl rfl rfl rfl rfl
  | pop =>
    show GoodH (stepPop s) (es ++ [])
    rw [List.append_nil]
    rcases stepPop_cases s with h | ⟨_, _, _, h⟩ <;> rw [h]
    · exact hh
    · exact goodH_congr hh rfl rfl rfl rfl rfl rfl
  | iter =>
    show GoodH (stepIter s).1 (es ++ (stepIter s).2)
    rcases stepIter_cases s with ⟨_, c, _, hcur, _, h⟩ | ⟨_, _, _, _, _, h⟩ | h | h <;> rw [h]
    · exact goodH_fireOrSkip s c es hg hh hcur
    · exact (List.append_nil es).symm ▸ goodH_congr hh rfl rfl rfl rfl rfl rfl
    · exact (List.append_nil es).symm ▸ goodH_congr hh rfl rfl rfl rfl rfl rfl
    · exact (List.append_nil es).symm ▸ hh

theorem goodH_run (s : SW) (ops : List Op) (es : List Emission) (hg : Good s) (hh : GoodH s es)
    (hok : ∀ op ∈ ops, OpOk op) : Good (run s ops).1 ∧ GoodH (run s ops).1 (es ++ (run s ops).2) := by
  induction ops generalizing s es with
  | nil => exact ⟨hg, (List.append_nil es).symm ▸ hh⟩
  | cons op ops ih =>
    have hok1 := hok op List.mem_cons_self
    have := ih (step s op).1 (es ++ (step s op).2) (good_step s op hg hok1)
      (goodH_step s op es hg hh hok1) (fun o ho => hok o (List.mem_cons_of_mem _ ho))
    rwa [List.append_assoc] at this

theorem goodH_reach (size slide ooo : Int) (hs : 0 < size) (hl : 0 < slide) (ops : List Op)
    (hok : ∀ op ∈ ops, OpOk op) :
    Good (run (init size slide ooo) ops).1 ∧
    GoodH (run (init size slide ooo) ops).1 (run (init size slide ooo) ops).2 := by
  have := goodH_run (init size slide ooo) ops [] (good_init size slide ooo hs hl) (goodH_init size slide ooo) hok
  rwa [List.nil_append] at this

end Sliding
