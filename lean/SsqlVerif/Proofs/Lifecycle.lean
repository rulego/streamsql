/-
The invariant behind C18: the lifecycle counter is the number of threads that hold a count, the sink
read-lock count is the number of holders, and a Stop call past the join saw the counter at zero.  A thread
step replaces one thread and moves the two counters by that thread's weights; a Stop step leaves the threads and the
two counters alone and moves its own program counter and the flags.
-/
import SsqlVerif.Model.Lifecycle
set_option autoImplicit false

namespace Lifecycle

structure Params where
  nworkers : Nat
  ncallers : Nat
  nstops   : Nat
  asyncs   : List Kind
  syncs    : List Kind

inductive Reach (c : Cfg) (p : Params) : State → Prop where
  | init : Reach c p (init c p.nworkers p.ncallers p.nstops p.asyncs p.syncs)
  | step {s s' : State} (t : Tid) (w : Wit) : Reach c p s → step c s t w = some s' → Reach c p s'

theorem run_reach (c : Cfg) (p : Params) (sched : List (Tid × Wit)) :
    ∀ s, Reach c p s → Reach c p (run c s sched) := by
  induction sched with
  | nil => exact fun s h => h
  | cons x rest ih =>
    intro s h
    obtain ⟨t, w⟩ := x
    simp only [run]
    cases hs : step c s t w with
    | none => exact ih s h
    | some s' => exact ih s' (Reach.step t w h hs)

def b2n (b : Bool) : Nat := if b then 1 else 0

/-- the thread is inside `callSinksAsync` with `sinksMux.RLock` held -/
def heldOf : Act → Bool
  | .submit _ _ _ h => h
  | .body _ _ _ _ h => h
  | .wantW _ _ _ h => h
  | _ => false

def aliveCount (s : State) : Nat :=
  b2n s.eng.alive + s.workers.countP (·.alive) + s.callers.countP (·.joined)

def heldCount (s : State) : Nat :=
  b2n (heldOf s.eng.act) + s.workers.countP (fun t => heldOf t.act) + s.callers.countP (fun t => heldOf t.act)

/-- a tracked goroutine that is gone does nothing; EmitSync calls are counted iff guarded -/
structure ThreadsOk (c : Cfg) (s : State) : Prop where
  eng : s.eng.joined = false ∧ (s.eng.alive = false → s.eng.act = .idle)
  workers : ∀ t ∈ s.workers, t.joined = false ∧ (t.alive = false → t.act = .idle)
  callers : ∀ t ∈ s.callers, t.alive = false ∧ (t.joined = true ↔ (c.syncGuard = true ∧ t.act ≠ .idle))

structure StopsOk (s : State) : Prop where
  /-- a Stop call past the join saw the counter at zero, and it stays there -/
  joined : ∀ (k : Nat) (pc : SPC), s.stops[k]? = some pc → pastJoin pc = true → s.life = 0
  teardown : ∀ (k : Nat) (pc : SPC), s.stops[k]? = some pc → inTeardown pc = true → s.stopped = true
  one : s.stops.countP (fun pc => inTeardown pc) ≤ 1
  none : s.stopped = false → s.stops.countP (fun pc => inTeardown pc) = 0
  returned : s.stopReturned = true → ∃ k : Nat, s.stops[k]? = some .sRet
  nil : ∀ (k : Nat) (pc : SPC), s.stops[k]? = some pc → (pc = .sNil ∨ pc = .sWait ∨ pc = .sJoined ∨ pc = .sRet) →
    s.chanNil = true

structure LInv (c : Cfg) (s : State) : Prop where
  life : s.life = aliveCount s
  rd : s.rd = heldCount s
  th : ThreadsOk c s
  st : StopsOk s
  /-- the repaired dispatch never holds the read lock at a step boundary -/
  copy : c.copySinks = true → heldCount s = 0

/-- no sink invocation is logged after the tearing-down Stop returned -/
def Quiet (s : State) : Prop := ∀ e ∈ s.log, e.afterStop = false

theorem b2n_le (b : Bool) : b2n b ≤ 1 := by cases b <;> decide

theorem heldOf_pos_rd (c : Cfg) (s : State) (h : LInv c s) (n : Nat) (hn : n ≤ heldCount s) (hp : 1 ≤ n) : 1 ≤ s.rd := by
  rw [h.rd]
  exact Nat.le_trans hp hn

theorem b2n_eq_zero {b : Bool} (h : b2n b ≤ 0) : b = false := by
  cases b
  · rfl
  · exact absurd h (by decide)

/-- the Stop call has nilled the data channel -/
def pastNil : SPC → Bool
  | .sNil | .sWait | .sJoined | .sRet => true
  | _ => false

theorem pastNil_iff {pc : SPC} : pastNil pc = true ↔ (pc = .sNil ∨ pc = .sWait ∨ pc = .sJoined ∨ pc = .sRet) := by
  cases pc <;> decide

theorem stopsOk_chanNil {s : State} {k : Nat} {pc : SPC} (h : StopsOk s) (hk : s.stops[k]? = some pc)
    (hp : pastNil pc = true) : s.chanNil = true :=
  h.nil k pc hk (pastNil_iff.mp hp)

theorem countP_set {α : Type} (p : α → Bool) (l : List α) (i : Nat) (a b : α) (h : l[i]? = some a) :
    (l.set i b).countP p + b2n (p a) = l.countP p + b2n (p b) := by
  induction l generalizing i with
  | nil => cases h
  | cons x xs ih =>
    cases i with
    | zero =>
      cases h
      simp only [List.set_cons_zero, List.countP_cons, b2n]
      exact Nat.add_right_comm ..
    | succ k =>
      simp only [List.set_cons_succ, List.countP_cons]
      rw [Nat.add_right_comm, ih k h, Nat.add_right_comm]

theorem forall_mem_set {α : Type} {P : α → Prop} {l : List α} {i : Nat} {b : α} (h : ∀ x ∈ l, P x) (hb : P b) :
    ∀ x ∈ l.set i b, P x :=
  fun x hx => (List.mem_or_eq_of_mem_set hx).elim (h x) (· ▸ hb)

theorem forall_getElem?_set {α : Type} {P : α → Prop} {l : List α} {i : Nat} {b : α}
    (h : ∀ (j : Nat) x, l[j]? = some x → P x) (hb : P b) : ∀ (j : Nat) x, (l.set i b)[j]? = some x → P x :=
  fun _ x hj => forall_mem_set (fun x hx => (List.getElem?_of_mem hx).elim fun j hj => h j x hj) hb x
    (List.mem_of_getElem? hj)

theorem add3_left (x x' y z : Nat) : x' + y + z + x = x + y + z + x' := by
  ac_rfl

theorem add3_right {x y z z' a a' : Nat} (h : z' + a = z + a') : x + y + z' + a = x + y + z + a' := by
  rw [Nat.add_assoc, h, ← Nat.add_assoc]

theorem add3_mid {x y y' z a a' : Nat} (h : y' + a = y + a') : x + y' + z + a = x + y + z + a' := by
  rw [Nat.add_right_comm x, Nat.add_right_comm x y]
  exact add3_right h

theorem eq_true_of_not_not {b : Bool} (h : ¬(!b) = true) : b = true := by
  cases b
  · exact absurd rfl h
  · rfl

theorem heldOf_nextAct (b : Nat) (as ss : List Kind) (h : Bool) :
    heldOf (nextAct b as ss h) = (h && !(nextAct b as ss h == .idle)) := by
  cases as with
  | cons a as' => exact (Bool.and_true h).symm
  | nil =>
    cases ss with
    | cons k ss' => exact (Bool.and_true h).symm
    | nil => exact (Bool.and_false h).symm

theorem rdAfter_spec (rd : Nat) (h : Bool) (a : Act) (hpos : h = true → 1 ≤ rd) :
    rdAfter rd h a + b2n h = rd + b2n (h && !(a == .idle)) := by
  unfold rdAfter
  cases h with
  | false => rfl
  | true =>
    cases hi : (a == .idle) with
    | true => exact Nat.sub_add_cancel (hpos rfl)
    | false => rfl

theorem dispatch_next (rd b : Nat) (as ss : List Kind) (held : Bool) (hpos : held = true → 1 ≤ rd) :
    rdAfter rd held (nextAct b as ss held) + b2n held = rd + b2n (heldOf (nextAct b as ss held)) ∧
    (held = false → heldOf (nextAct b as ss held) = false) := by
  rw [heldOf_nextAct]
  refine ⟨rdAfter_spec rd held _ hpos, fun hh => ?_⟩
  rw [hh]
  rfl

theorem heldOf_nextAct_of_ne {b : Nat} {as ss : List Kind} {h : Bool} (hne : ¬(as.isEmpty && ss.isEmpty) = true) :
    heldOf (nextAct b as ss h) = h := by
  cases as with
  | cons a as' => rfl
  | nil =>
    cases ss with
    | cons k ss' => rfl
    | nil => exact absurd rfl hne

theorem actStep_spec {c : Cfg} {s : State} {a a' : Act} {sh : Shared} (h : actStep c s a = some (a', sh))
    (hpos : heldOf a = true → 1 ≤ s.rd) :
    sh.rd + b2n (heldOf a) = s.rd + b2n (heldOf a') ∧
    (c.copySinks = true → heldOf a = false → heldOf a' = false) ∧
    (sh.log = s.log ∨ ∃ b, sh.log = s.log ++ [{ batch := b, afterStop := s.stopReturned }]) := by
  revert h
  fun_cases actStep c s a
  all_goals intro h
  all_goals cases h
  case case2 => exact ⟨rfl, fun _ _ => rfl, .inl rfl⟩                    -- no sinks
  case case3 b _ _ =>                                                   -- copies
    have next := dispatch_next s.rd b s.asyncSinks s.syncSinks false nofun
    exact ⟨next.1, fun _ => next.2, .inl rfl⟩
  case case4 b hne hc =>                                                -- holds the lock
    refine ⟨?_, fun hc' => absurd hc' hc, .inl rfl⟩
    rw [heldOf_nextAct_of_ne hne]
    rfl
  case case6 b ss held k as' _ =>                                       -- queued
    have next := dispatch_next s.rd b as' ss held hpos
    exact ⟨next.1, fun _ => next.2, .inl rfl⟩
  case case7 b ss held k as' _ _ =>                                     -- dropped
    have next := dispatch_next s.rd b as' ss held hpos
    exact ⟨next.1, fun _ => next.2, .inl rfl⟩
  case case8 => exact ⟨rfl, fun _ hh => hh, .inl rfl⟩                    -- run inline
  case case9 b as ss held => exact ⟨rfl, fun _ hh => hh, .inr ⟨b, rfl⟩⟩  -- `adds`
  case case10 b as ss held k _ =>                                       -- plain, panics
    have next := dispatch_next s.rd b as ss held hpos
    exact ⟨next.1, fun _ => next.2, .inr ⟨b, rfl⟩⟩
  case case11 b as ss held _ =>                                         -- `AddSink` gets the lock
    have next := dispatch_next s.rd b as ss held hpos
    exact ⟨next.1, fun _ => next.2, .inl rfl⟩

/-- the place of a thread that the lifecycle counter and the sink lock account for -/
inductive Slot where
  | eng | worker (j : Nat) | caller (i : Nat)

namespace Slot

def get (s : State) : Slot → Option Thread
  | eng => some s.eng
  | worker j => s.workers[j]?
  | caller i => s.callers[i]?

def set (s : State) (t : Thread) : Slot → State
  | eng => { s with eng := t }
  | worker j => { s with workers := s.workers.set j t }
  | caller i => { s with callers := s.callers.set i t }

/-- the thread holds one count of the lifecycle WaitGroup -/
def counted : Slot → Thread → Bool
  | caller _, t => t.joined
  | _, t => t.alive

/-- what `ThreadsOk` says of a thread at this place -/
def Ok (c : Cfg) : Slot → Thread → Prop
  | caller _, t => t.alive = false ∧ (t.joined = true ↔ (c.syncGuard = true ∧ t.act ≠ .idle))
  | _, t => t.joined = false ∧ (t.alive = false → t.act = .idle)

end Slot

/-- what the invariant reads of a state, the two counters aside -/
abbrev threads (s : State) : Thread × List Thread × List Thread := (s.eng, s.workers, s.callers)
abbrev stopsView (s : State) : List SPC × Bool × Bool × Bool := (s.stops, s.stopped, s.stopReturned, s.chanNil)

section
variable {c : Cfg} {s s' : State} {sl : Slot} {t t' : Thread}

theorem counts_put (hg : sl.get s = some t) (hth : threads s' = threads (sl.set s t')) :
    aliveCount s' + b2n (sl.counted t) = aliveCount s + b2n (sl.counted t') ∧
    heldCount s' + b2n (heldOf t.act) = heldCount s + b2n (heldOf t'.act) := by
  unfold aliveCount heldCount
  cases sl
  all_goals
    simp only [threads, Slot.set, Prod.mk.injEq] at hth
    obtain ⟨he, hw, hc⟩ := hth
    rw [he, hw, hc]
  case eng =>
    cases hg
    exact ⟨add3_left .., add3_left ..⟩
  case worker j =>
    have h1 := countP_set (·.alive) s.workers j t t' hg
    have h2 := countP_set (fun x => heldOf x.act) s.workers j t t' hg
    exact ⟨add3_mid h1, add3_mid h2⟩
  case caller i =>
    have h1 := countP_set (·.joined) s.callers i t t' hg
    have h2 := countP_set (fun x => heldOf x.act) s.callers i t t' hg
    exact ⟨add3_right h1, add3_right h2⟩

/-- compare with the state where the thread is replaced by an idle, uncounted one -/
theorem counts_ge (hg : sl.get s = some t) :
    b2n (sl.counted t) ≤ aliveCount s ∧ b2n (heldOf t.act) ≤ heldCount s := by
  have ⟨h1, h2⟩ := counts_put hg (t' := ⟨.idle, false, false⟩) rfl
  have e : sl.counted ⟨.idle, false, false⟩ = false := by cases sl <;> rfl
  rw [e] at h1
  exact ⟨Nat.le.intro (Nat.add_comm .. ▸ h1), Nat.le.intro (Nat.add_comm .. ▸ h2)⟩

theorem threadsOk_put (h : ThreadsOk c s) (hth : threads s' = threads (sl.set s t')) (hok : sl.Ok c t') :
    ThreadsOk c s' := by
  cases sl
  all_goals
    simp only [threads, Slot.set, Prod.mk.injEq] at hth
    obtain ⟨he, hw, hc⟩ := hth
  · exact ⟨he ▸ hok, hw ▸ h.workers, hc ▸ h.callers⟩
  · exact ⟨he ▸ h.eng, hw ▸ forall_mem_set h.workers hok, hc ▸ h.callers⟩
  · exact ⟨he ▸ h.eng, hw ▸ h.workers, hc ▸ forall_mem_set h.callers hok⟩

theorem inTeardown_of_pastJoin {pc : SPC} (h : pastJoin pc = true) : inTeardown pc = true := by
  cases pc <;> first | rfl | cases h

theorem stopsOk_frame (h : StopsOk s) (hv : stopsView s' = stopsView s)
    (hl : s'.life ≤ s.life ∨ s.stopped = false) : StopsOk s' := by
  obtain ⟨h1, hv⟩ := Prod.mk.inj hv
  obtain ⟨h2, hv⟩ := Prod.mk.inj hv
  obtain ⟨h3, h4⟩ := Prod.mk.inj hv
  refine ⟨?_, ?_, ?_, ?_, ?_, ?_⟩
  · rw [h1]                                                -- joined
    intro k pc hk hp
    rcases hl with hl | hl
    · exact Nat.le_zero.mp (h.joined k pc hk hp ▸ hl)
    · exact absurd (h.teardown k pc hk (inTeardown_of_pastJoin hp)) (Bool.eq_false_iff.mp hl)
  · rw [h1, h2]                                            -- teardown
    exact h.teardown
  · rw [h1]                                                -- one
    exact h.one
  · rw [h1, h2]                                            -- none
    exact h.none
  · rw [h1, h3]                                            -- returned
    exact h.returned
  · rw [h1, h4]                                            -- nil
    exact h.nil

theorem linv_put (h : LInv c s) (hg : sl.get s = some t) (hth : threads s' = threads (sl.set s t'))
    (hlife : s'.life + b2n (sl.counted t) = s.life + b2n (sl.counted t'))
    (hrd : s'.rd + b2n (heldOf t.act) = s.rd + b2n (heldOf t'.act))
    (hcopy : c.copySinks = true → heldOf t.act = false → heldOf t'.act = false)
    (hok : sl.Ok c t') (hst : StopsOk s') : LInv c s' := by
  obtain ⟨ha, hh⟩ := counts_put hg hth
  rw [← h.life] at ha
  rw [← h.rd] at hh
  refine ⟨Nat.add_right_cancel (hlife.trans ha.symm), Nat.add_right_cancel (hrd.trans hh.symm),
    threadsOk_put h.th hth hok, hst, fun hc => ?_⟩
  rw [h.rd, h.copy hc] at hh
  cases hb : heldOf t.act with
  | false =>
    rw [hb, hcopy hc hb] at hh
    exact hh
  | true =>
    rw [hb] at hh
    exact Nat.le_zero.mp (Nat.le_of_add_le_add_right (hh ▸ Nat.add_le_add_left (b2n_le _) 0))

theorem linv_same (h : LInv c s) (hth : threads s' = threads s) (hl : s'.life = s.life) (hr : s'.rd = s.rd)
    (hst : StopsOk s') : LInv c s' :=
  linv_put h (sl := .eng) (t' := s.eng) rfl hth (by rw [hl]) (by rw [hr]) (fun _ h => h) h.th.eng hst

theorem linv_data (h : LInv c s) (hth : threads s' = threads s := by rfl) (hv : stopsView s' = stopsView s := by rfl)
    (hl : s'.life = s.life := by rfl) (hr : s'.rd = s.rd := by rfl) : LInv c s' :=
  linv_same h hth hl hr (stopsOk_frame h.st hv (.inl (Nat.le_of_eq hl)))

/-- while some tracked thread is busy no Stop call is past the join, hence none has returned -/
theorem not_returned_of_alive (h : LInv c s) (hpos : 1 ≤ aliveCount s) : s.stopReturned = false := by
  cases hr : s.stopReturned with
  | false => rfl
  | true =>
    obtain ⟨k, hk⟩ := h.st.returned hr
    have := h.st.joined k .sRet hk rfl
    rw [h.life] at this
    rw [this] at hpos
    cases hpos

theorem quiet_log (hq : Quiet s) (hl : s'.log = s.log ∨ ∃ b, s'.log = s.log ++ [{ batch := b, afterStop := s.stopReturned }])
    (hr : s.stopReturned = false) : Quiet s' := by
  intro e he
  rcases hl with hl | ⟨b, hl⟩ <;> rw [hl] at he
  · exact hq e he
  · rcases List.mem_append.mp he with h1 | h1
    · exact hq e h1
    · cases List.mem_singleton.mp h1
      exact hr

/-- the second half of `stepEng`, `stepWorker`, `stepCaller` -/
theorem linv_dispatch {a' : Act} {sh : Shared} (h : LInv c s) (hg : sl.get s = some t)
    (hact : actStep c s t.act = some (a', sh)) (hth : threads s' = threads (sl.set s t')) (hok : sl.Ok c t')
    (hlife : s'.life + b2n (sl.counted t) = s.life + b2n (sl.counted t') := by rfl)
    (hle : s'.life ≤ s.life := by exact Nat.le_refl _)
    (ha' : t'.act = a' := by rfl) (hrd : s'.rd = sh.rd := by rfl) (hlog : s'.log = sh.log := by rfl)
    (hv : stopsView s' = stopsView s := by rfl) :
    LInv c s' ∧ (sl.counted t = true → Quiet s → Quiet s') := by
  obtain ⟨hcnt, hheld⟩ := counts_ge hg
  subst ha'
  have hpos : heldOf t.act = true → 1 ≤ s.rd := by
    intro hh
    rw [h.rd]
    rw [hh] at hheld
    exact hheld
  obtain ⟨e1, e2, e3⟩ := actStep_spec hact hpos
  rw [← hrd] at e1
  rw [← hlog] at e3
  refine ⟨linv_put h hg hth hlife e1 e2 hok (stopsOk_frame h.st hv (.inl hle)), fun hc q => ?_⟩
  rw [hc] at hcnt
  exact quiet_log q e3 (not_returned_of_alive h hcnt)

theorem life_of_exit (h : LInv c s) (hg : sl.get s = some t) (hc : sl.counted t = true) (hc' : sl.counted t' = false) :
    s.life - 1 + b2n (sl.counted t) = s.life + b2n (sl.counted t') := by
  have := (counts_ge hg).1
  rw [hc, ← h.life] at this
  rw [hc, hc']
  exact Nat.sub_add_cancel this

theorem linv_eng {w : Wit} (h : LInv c s) (hs : stepEng c s w = some s') :
    LInv c s' ∧ (Quiet s → Quiet s') := by
  have hg : Slot.eng.get s = some s.eng := rfl
  have hj := h.th.eng.1
  have hok : s.eng.alive = true → ∀ a, Slot.eng.Ok c { s.eng with act := a } :=
    fun halive _ => ⟨hj, fun ha => nomatch halive.symm.trans ha⟩
  revert hs
  fun_cases stepEng c s w
  all_goals intro hs
  all_goals cases hs
  case case3 => exact ⟨linv_data h, id⟩                    -- row panics
  case case4 hal hidle r rest _ _ =>                       -- row taken
    have hrd := congrArg (fun a => s.rd + b2n (heldOf a)) hidle
    exact ⟨linv_put h hg rfl rfl hrd (fun _ _ => rfl) (hok (eq_true_of_not_not hal) _)
      (stopsOk_frame h.st rfl (.inl (Nat.le_refl _))), id⟩
  case case5 hal hidle _ =>                                -- `done` closed
    exact ⟨linv_put h hg rfl (life_of_exit h hg (eq_true_of_not_not hal) rfl) rfl (fun _ hh => hh) ⟨hj, fun _ => hidle⟩
      (stopsOk_frame h.st rfl (.inl (Nat.sub_le ..))), id⟩
  case case7 => exact ⟨h, id⟩                              -- tick
  case case8 hal a' sh hend _ hact =>                      -- ends, channel nil
    have halive := eq_true_of_not_not hal
    exact And.imp_right (· halive) (linv_dispatch h hg hact rfl ⟨hj, fun _ => eq_of_beq (Bool.and_eq_true_iff.mp hend).1⟩
      (hlife := life_of_exit h hg halive rfl) (hle := Nat.sub_le ..))
  case case9 hal a' sh _ _ hact =>                         -- goes on
    have halive := eq_true_of_not_not hal
    exact And.imp_right (· halive) (linv_dispatch h hg hact rfl (hok halive _))

theorem linv_worker {j : Nat} {w : Wit} (h : LInv c s) (hs : stepWorker c s j w = some s') :
    LInv c s' ∧ (Quiet s → Quiet s') := by
  have live : ∀ {t : Thread}, s.workers[j]? = some t → ¬(!t.alive) = true →
      (Slot.worker j).get s = some t ∧ t.alive = true ∧ ∀ a, (Slot.worker j).Ok c { t with act := a } :=
    fun hg hal => ⟨hg, eq_true_of_not_not hal, fun _ => ⟨(h.th.workers _ (List.mem_of_getElem? hg)).1,
      fun ha => nomatch (eq_true_of_not_not hal).symm.trans ha⟩⟩
  revert hs
  fun_cases stepWorker c s j w
  all_goals intro hs
  all_goals cases hs
  case case3 t hg hal hidle _ =>                           -- `done` closed
    obtain ⟨hg, halive, hok⟩ := live hg hal
    exact ⟨linv_put h hg rfl (life_of_exit h hg halive rfl) rfl (fun _ hh => hh) ⟨(hok .idle).1, fun _ => hidle⟩
      (stopsOk_frame h.st rfl (.inl (Nat.sub_le ..))), id⟩
  case case6 t hg hal hidle k b rest _ _ =>                -- task taken
    obtain ⟨hg, halive, hok⟩ := live hg hal
    have hrd := congrArg (fun a => s.rd + b2n (heldOf a)) hidle
    exact ⟨linv_put h hg rfl rfl hrd (fun _ _ => rfl) (hok _) (stopsOk_frame h.st rfl (.inl (Nat.le_refl _))), id⟩
  case case7 t hg hal a' sh _ hact =>                      -- in a task
    obtain ⟨hg, halive, hok⟩ := live hg hal
    exact And.imp_right (· halive) (linv_dispatch h hg hact rfl (hok _))

theorem linv_caller {i : Nat} (h : LInv c s) (hs : stepCaller c s i = some s') :
    LInv c s' ∧ (c.syncGuard = true → Quiet s → Quiet s') := by
  have at_i : ∀ {t : Thread}, s.callers[i]? = some t → (Slot.caller i).get s = some t ∧ t.alive = false ∧
      (t.joined = true ↔ (c.syncGuard = true ∧ t.act ≠ .idle)) :=
    fun hg => ⟨hg, h.th.callers _ (List.mem_of_getElem? hg)⟩
  revert hs
  fun_cases stepCaller c s i
  all_goals intro hs
  all_goals cases hs
  case case2 => exact ⟨linv_data h, fun _ => id⟩           -- refused
  case case3 t hg hidle hsg hnst =>                        -- takes a count
    obtain ⟨hg, hal, hjn⟩ := at_i hg
    have hrd := congrArg (fun a => s.rd + b2n (heldOf a)) hidle
    have hnj : (Slot.caller i).counted t = false := Bool.eq_false_iff.mpr fun hj => (hjn.mp hj).2 hidle
    refine ⟨linv_put h hg rfl ?_ hrd (fun _ _ => rfl) ⟨hal, fun _ => ⟨hsg, nofun⟩, fun _ => rfl⟩
      (stopsOk_frame h.st rfl (.inr (Bool.eq_false_iff.mpr hnst))), fun _ => id⟩
    rw [hnj]
    rfl
  case case4 t hg hidle hsg =>                             -- unguarded
    obtain ⟨hg, hal, hjn⟩ := at_i hg
    have hrd := congrArg (fun a => s.rd + b2n (heldOf a)) hidle
    have hnj : t.joined = false := Bool.eq_false_iff.mpr fun hj => (hjn.mp hj).2 hidle
    exact ⟨linv_put h hg rfl rfl hrd (fun _ _ => rfl)
      ⟨hal, iff_of_false (Bool.eq_false_iff.mp hnj) (fun hh => hsg hh.1)⟩
      (stopsOk_frame h.st rfl (.inl (Nat.le_refl _))), fun hg' => absurd hg' hsg⟩
  case case5 t hg a' sh hend hne hact =>                   -- counted call returns
    obtain ⟨hg, hal, hjn⟩ := at_i hg
    obtain ⟨ha', hj⟩ := Bool.and_eq_true_iff.mp hend
    -- a guarded call in progress is counted, so no Stop has returned
    exact And.imp_right (fun q hg' => q (hjn.mpr ⟨hg', hne⟩)) (linv_dispatch h hg hact rfl
      ⟨hal, iff_of_false Bool.false_ne_true (fun hh => hh.2 (eq_of_beq ha'))⟩ (hlife := life_of_exit h hg hj rfl)
      (hle := Nat.sub_le ..))
  case case6 t hg a' sh hend hne hact =>                   -- goes on
    obtain ⟨hg, hal, hjn⟩ := at_i hg
    refine And.imp_right (fun q hg' => q (hjn.mpr ⟨hg', hne⟩)) (linv_dispatch h hg hact rfl
      ⟨hal, fun hj => ⟨(hjn.mp hj).1, fun ha' => hend ?_⟩, fun hh => hjn.mpr ⟨hh.1, hne⟩⟩)
    rw [show a' = .idle from ha', show t.joined = true from hj]
    rfl

theorem stopsOk_set {s s' : State} {k : Nat} {pc pc' : SPC} (h : StopsOk s) (hk : s.stops[k]? = some pc)
    (hstops : s'.stops = s.stops.set k pc') (hlife : s'.life = s.life)
    (hn : pastNil pc' = true → s'.chanNil = true)
    (hstopped : s.stopped = true → s'.stopped = true := by exact id)
    (hnil : s.chanNil = true → s'.chanNil = true := by exact id)
    (hret : s'.stopReturned = true → s.stopReturned = true ∨ pc' = .sRet := by exact .inl)
    (hpc : pc ≠ .sRet := by nofun)
    (hjoin : pastJoin pc' = true → pastJoin pc = true ∨ s.life = 0 := by nofun)
    (htd : inTeardown pc' = true → inTeardown pc = true ∨ (s.stopped = false ∧ s'.stopped = true) := by
      exact fun _ => .inl rfl) :
    StopsOk s' := by
  have hc := countP_set (fun pc => inTeardown pc) s.stops k pc pc' hk
  rw [← hstops] at hc
  refine ⟨?_, ?_, ?_, ?_, ?_, ?_⟩
  · rw [hstops, hlife]                                     -- joined
    exact forall_getElem?_set h.joined fun hq => (hjoin hq).elim (h.joined k pc hk) id
  · rw [hstops]                                            -- teardown
    exact forall_getElem?_set (fun j q hj hq => hstopped (h.teardown j q hj hq))
      fun hq => (htd hq).elim (fun hp => hstopped (h.teardown k pc hk hp)) (·.2)
  · have h1 := h.one                                       -- one
    cases hp' : inTeardown pc' with
    | false =>
      rw [hp'] at hc
      exact Nat.le_trans (Nat.le.intro hc) h1
    | true =>
      rw [hp'] at hc
      rcases htd hp' with hp | ⟨hst, _⟩
      · rw [hp] at hc
        exact Nat.add_right_cancel hc ▸ h1
      · rw [h.none hst] at hc
        exact Nat.le.intro hc
  · intro hs'                                              -- none
    have hst : s.stopped = false :=
      Bool.eq_false_iff.mpr fun hh => absurd (hstopped hh) (Bool.eq_false_iff.mp hs')
    have hp' : inTeardown pc' = false := Bool.eq_false_iff.mpr fun hh =>
      (htd hh).elim (fun hp => absurd (h.teardown k pc hk hp) (Bool.eq_false_iff.mp hst))
        fun hh => absurd hh.2 (Bool.eq_false_iff.mp hs')
    rw [hp', h.none hst] at hc
    exact Nat.eq_zero_of_add_eq_zero_right hc
  · intro hr                                               -- returned
    rcases hret hr with hr | rfl
    · obtain ⟨j, hj⟩ := h.returned hr
      have hkj : k ≠ j := by
        rintro rfl
        exact hpc (Option.some.inj (hk.symm.trans hj))
      refine ⟨j, ?_⟩
      rw [hstops, List.getElem?_set_ne hkj]
      exact hj
    · exact ⟨k, by rw [hstops, List.getElem?_set_self (List.getElem?_eq_some_iff.mp hk).1]⟩
  · rw [hstops]                                            -- nil
    exact forall_getElem?_set (fun j q hj hq => hnil (h.nil j q hj hq)) fun hq => hn (pastNil_iff.mpr hq)

theorem linv_stop {k : Nat} (h : LInv c s) (hs : stepStop s k = some s') :
    LInv c s' ∧ (Quiet s → Quiet s') := by
  have hst := h.st
  revert hs
  fun_cases stepStop s k
  all_goals intro hs
  all_goals cases hs
  case case2 _ hk =>                                       -- `sNoop`
    exact ⟨linv_same h rfl rfl rfl (stopsOk_set hst hk rfl rfl nofun (htd := nofun)), id⟩
  case case3 hstp hk =>                                    -- `sFlag`
    exact ⟨linv_same h rfl rfl rfl (stopsOk_set hst hk rfl rfl nofun (hstopped := fun _ => rfl)
      (htd := fun _ => .inr ⟨Bool.eq_false_iff.mpr hstp, rfl⟩)), id⟩
  case case4 hk =>                                         -- `sDone`
    exact ⟨linv_same h rfl rfl rfl (stopsOk_set hst hk rfl rfl nofun), id⟩
  case case6 _ hk =>                                       -- `sNil`
    exact ⟨linv_same h rfl rfl rfl (stopsOk_set hst hk rfl rfl (fun _ => rfl) (hnil := fun _ => rfl)), id⟩
  case case7 hk =>                                         -- `sWait`
    exact ⟨linv_same h rfl rfl rfl (stopsOk_set hst hk rfl rfl (fun _ => (stopsOk_chanNil hst hk rfl :))), id⟩
  case case8 hl hk =>                                      -- `sJoined`
    exact ⟨linv_same h rfl rfl rfl (stopsOk_set hst hk rfl rfl (fun _ => (stopsOk_chanNil hst hk rfl :))
      (hjoin := fun _ => .inr hl)), id⟩
  case case10 hk =>                                        -- `sRet`
    exact ⟨linv_same h rfl rfl rfl (stopsOk_set hst hk rfl rfl (fun _ => (stopsOk_chanNil hst hk rfl :))
      (hret := fun _ => .inr rfl) (hjoin := fun _ => .inl rfl)), id⟩

theorem linv_step {t : Tid} {w : Wit} (h : LInv c s) (hs : step c s t w = some s') :
    LInv c s' ∧ (c.syncGuard = true → Quiet s → Quiet s') := by
  cases t with
  | emit p =>
    change stepEmit c s p w = some s' at hs
    revert hs
    fun_cases stepEmit c s p w
    all_goals
      intro hs
      cases hs
      exact ⟨linv_data h, fun _ => id⟩
  | addSink =>
    change stepAddSink s = some s' at hs
    revert hs
    fun_cases stepAddSink s
    all_goals
      intro hs
      cases hs
    exact ⟨linv_data h, fun _ => id⟩
  | eng => exact And.imp_right (fun q _ => q) (linv_eng h hs)
  | worker j => exact And.imp_right (fun q _ => q) (linv_worker h hs)
  | caller i => exact linv_caller h hs
  | stop k => exact And.imp_right (fun q _ => q) (linv_stop h hs)

theorem linv_init (c : Cfg) (p : Params) : LInv c (init c p.nworkers p.ncallers p.nstops p.asyncs p.syncs) ∧
    Quiet (init c p.nworkers p.ncallers p.nstops p.asyncs p.syncs) := by
  have rep : ∀ {α : Type} {P : α → Prop} {n : Nat} {a : α}, P a → ∀ x ∈ List.replicate n a, P x :=
    fun ha x hx => (List.mem_replicate.mp hx).2 ▸ ha
  have reps : ∀ {P : SPC → Prop}, P .sIdle → ∀ (k : Nat) (pc : SPC),
      (List.replicate p.nstops SPC.sIdle)[k]? = some pc → P pc := fun ha k pc hk => rep ha pc (List.mem_of_getElem? hk)
  have noTeardown : (List.replicate p.nstops SPC.sIdle).countP (fun pc => inTeardown pc) = 0 := by
    rw [List.countP_replicate]
    rfl
  have held0 : heldCount (init c p.nworkers p.ncallers p.nstops p.asyncs p.syncs) = 0 := by
    simp only [heldCount, init, List.countP_replicate]
    rfl
  refine ⟨⟨?_, held0.symm,
    ⟨⟨rfl, nofun⟩, rep ⟨rfl, nofun⟩, rep ⟨rfl, iff_of_false nofun (fun hh => hh.2 rfl)⟩⟩,
    ⟨reps nofun, reps nofun, noTeardown ▸ Nat.zero_le 1, fun _ => noTeardown, nofun, reps nofun⟩,
    fun _ => held0⟩, nofun⟩
  simp only [aliveCount, init, List.countP_replicate]
  rfl

theorem linv_reach {p : Params} (h : Reach c p s) :
    LInv c s ∧ (c.syncGuard = true → Quiet s) := by
  induction h with
  | init => exact ⟨(linv_init c p).1, fun _ => (linv_init c p).2⟩
  | step t w _ hs ih =>
    have := linv_step ih.1 hs
    exact ⟨this.1, fun hg => this.2 hg (ih.2 hg)⟩

end

end Lifecycle
