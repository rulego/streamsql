-- GENERATED by ./check (gen_registry). Do not edit.
import SsqlVerif.Audit.C01
import SsqlVerif.Audit.C02
import SsqlVerif.Audit.C03
import SsqlVerif.Audit.C04
import SsqlVerif.Audit.C05
import SsqlVerif.Audit.C06
import SsqlVerif.Audit.C07
import SsqlVerif.Audit.C08
import SsqlVerif.Audit.C09
import SsqlVerif.Audit.C10
import SsqlVerif.Audit.C11
import SsqlVerif.Audit.C12
import SsqlVerif.Audit.C13
import SsqlVerif.Audit.C14
import SsqlVerif.Audit.C15
import SsqlVerif.Audit.C16
import SsqlVerif.Audit.C17
import SsqlVerif.Audit.C18
import SsqlVerif.Audit.C19
import SsqlVerif.Audit.C20
import SsqlVerif.Generated.Facts
import SsqlVerif.Model.Agg
import SsqlVerif.Model.Analytic
import SsqlVerif.Model.AnalyticQuery
import SsqlVerif.Model.CallerRow
import SsqlVerif.Model.Cep
import SsqlVerif.Model.CepNfa
import SsqlVerif.Model.CepTypes
import SsqlVerif.Model.Cond
import SsqlVerif.Model.CondGeneral
import SsqlVerif.Model.CondShape
import SsqlVerif.Model.CondVal
import SsqlVerif.Model.Counting
import SsqlVerif.Model.Expr
import SsqlVerif.Model.ExprFn
import SsqlVerif.Model.ExprShape
import SsqlVerif.Model.Global
import SsqlVerif.Model.GlobalBasic
import SsqlVerif.Model.GroupAgg
import SsqlVerif.Model.GroupKey
import SsqlVerif.Model.GroupPartition
import SsqlVerif.Model.Ingest
import SsqlVerif.Model.IsNull
import SsqlVerif.Model.Join
import SsqlVerif.Model.Lexer
import SsqlVerif.Model.Lifecycle
import SsqlVerif.Model.Like
import SsqlVerif.Model.Pipeline
import SsqlVerif.Model.PostAgg
import SsqlVerif.Model.Session
import SsqlVerif.Model.Sliding
import SsqlVerif.Model.SlidingLate
import SsqlVerif.Model.Tumbling
import SsqlVerif.Model.Watermark
import SsqlVerif.Proofs.Agg
import SsqlVerif.Proofs.AggLaws
import SsqlVerif.Proofs.AggRun
import SsqlVerif.Proofs.AnalyticEngine
import SsqlVerif.Proofs.AnalyticKey
import SsqlVerif.Proofs.AnalyticMachines
import SsqlVerif.Proofs.AnalyticQuery
import SsqlVerif.Proofs.CallerRow
import SsqlVerif.Proofs.CepClosure
import SsqlVerif.Proofs.CepComplete
import SsqlVerif.Proofs.CepCompleteRun
import SsqlVerif.Proofs.CepEngine
import SsqlVerif.Proofs.CepLower
import SsqlVerif.Proofs.CepNfa
import SsqlVerif.Proofs.CepRun
import SsqlVerif.Proofs.CepWalk
import SsqlVerif.Proofs.Cond
import SsqlVerif.Proofs.CondShape
import SsqlVerif.Proofs.Counting
import SsqlVerif.Proofs.Expr
import SsqlVerif.Proofs.ExprCache
import SsqlVerif.Proofs.ExprXl
import SsqlVerif.Proofs.Global
import SsqlVerif.Proofs.GlobalAgg
import SsqlVerif.Proofs.GlobalCount
import SsqlVerif.Proofs.GlobalRun
import SsqlVerif.Proofs.GroupAgg
import SsqlVerif.Proofs.GroupKey
import SsqlVerif.Proofs.GroupKeyTyped
import SsqlVerif.Proofs.GroupPartition
import SsqlVerif.Proofs.Ingest
import SsqlVerif.Proofs.IngestFacts
import SsqlVerif.Proofs.IngestInv
import SsqlVerif.Proofs.IngestOrder
import SsqlVerif.Proofs.IngestSpec
import SsqlVerif.Proofs.IngestStep
import SsqlVerif.Proofs.Join
import SsqlVerif.Proofs.Lexer
import SsqlVerif.Proofs.LexerRender
import SsqlVerif.Proofs.Lifecycle
import SsqlVerif.Proofs.LifecycleFacts
import SsqlVerif.Proofs.Like
import SsqlVerif.Proofs.LikeRewrite
import SsqlVerif.Proofs.PipeDeliver
import SsqlVerif.Proofs.PipeDirect
import SsqlVerif.Proofs.PipePath
import SsqlVerif.Proofs.PipeProject
import SsqlVerif.Proofs.PipeStr
import SsqlVerif.Proofs.PostAggList
import SsqlVerif.Proofs.PostAggOrder
import SsqlVerif.Proofs.PostAggPipeline
import SsqlVerif.Proofs.PostAggRow
import SsqlVerif.Proofs.Session
import SsqlVerif.Proofs.SessionFlush
import SsqlVerif.Proofs.SessionLate
import SsqlVerif.Proofs.SessionOrder
import SsqlVerif.Proofs.SessionRun
import SsqlVerif.Proofs.Sliding
import SsqlVerif.Proofs.SlidingHist
import SsqlVerif.Proofs.SlidingLate
import SsqlVerif.Proofs.SlidingLateRun
import SsqlVerif.Proofs.Tumbling
import SsqlVerif.Proofs.TumblingHist
import SsqlVerif.Proofs.TumblingInv
import SsqlVerif.Proofs.TumblingLate
import SsqlVerif.Proofs.TumblingLateConserve
import SsqlVerif.Proofs.TumblingPT
import SsqlVerif.Proofs.Watermark
import SsqlVerif.Proofs.WatermarkBound
import SsqlVerif.Proofs.WatermarkSources
import SsqlVerif.Props.C01
import SsqlVerif.Props.C02
import SsqlVerif.Props.C03
import SsqlVerif.Props.C04
import SsqlVerif.Props.C05
import SsqlVerif.Props.C06
import SsqlVerif.Props.C07
import SsqlVerif.Props.C08
import SsqlVerif.Props.C09
import SsqlVerif.Props.C10
import SsqlVerif.Props.C11
import SsqlVerif.Props.C12
import SsqlVerif.Props.C13
import SsqlVerif.Props.C14
import SsqlVerif.Props.C15
import SsqlVerif.Props.C16
import SsqlVerif.Props.C17
import SsqlVerif.Props.C18
import SsqlVerif.Props.C19
import SsqlVerif.Props.C20
import SsqlVerif.Spec.Agg
import SsqlVerif.Spec.Analytic
import SsqlVerif.Spec.AnalyticQuery
import SsqlVerif.Spec.CallerRow
import SsqlVerif.Spec.Cep
import SsqlVerif.Spec.Cond
import SsqlVerif.Spec.Counting
import SsqlVerif.Spec.Expr
import SsqlVerif.Spec.Global
import SsqlVerif.Spec.GroupBy
import SsqlVerif.Spec.Ingest
import SsqlVerif.Spec.Join
import SsqlVerif.Spec.Lexer
import SsqlVerif.Spec.Lifecycle
import SsqlVerif.Spec.Like
import SsqlVerif.Spec.ParserTV
import SsqlVerif.Spec.Pipeline
import SsqlVerif.Spec.PostAgg
import SsqlVerif.Spec.Session
import SsqlVerif.Spec.SessionRef
import SsqlVerif.Spec.Window
