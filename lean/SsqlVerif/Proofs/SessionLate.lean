/-
For C02 (sessions, ALLOWEDLATENESS > 0): in every reachable state every session delivered so far is still registered
for late rows, or its allowance lies at or below the watermark.  (Before /repo abc3247 the implementation — and the
model that copied it — lost a registration when a later session of the key fired under the same map key.)
-/
import SsqlVerif.Proofs.SessionRun
set_option autoImplicit false

namespace Session
open Wm
open Tumbling (leOpt)

/-- `t` is the registration of the delivered session `e` -/
def RegFor (lat : Int) (e : Emission) (t : Trig) : Prop :=
  t.sess.key = e.key ∧ t.sess.start = e.start ∧ t.sess.stop = e.stop ∧ t.close = e.stop + lat

/-- every first delivery among `es` is registered in `w`, or its allowance is at or below the watermark -/
def Reg (w : SWin) (es : List Emission) : Prop :=
  ∀ e ∈ es, e.late = false →
    (∃ t ∈ w.trig, RegFor w.lateness e t) ∨ leOpt (e.stop + w.lateness) w.wm.cur

theorem addTrig_keeps (w : SWin) (k : Key) (r : Row) (now : Int) (e : Emission) :
    (∃ t ∈ w.trig, RegFor w.lateness e t) → ∃ t ∈ addTrig w k r now, RegFor w.lateness e t := by
  rintro ⟨t, ht, hr⟩
  fun_cases addTrig w k r now
  case case1 t0 _ => exact ⟨_, List.mem_map.mpr ⟨t, ht, rfl⟩, by split <;> exact hr⟩  -- late, absorbed
  case case2 => exact ⟨t, ht, hr⟩

theorem putTrig_foldl (l : List Trig) (ex : List Sess) (lat : Int) :
    ex.foldl (fun acc s => putTrig acc { sess := s, close := s.stop + lat }) l
      = l ++ ex.map (fun s => { sess := s, close := s.stop + lat }) := by
  induction ex generalizing l with
  | nil => simp
  | cons s ss ih =>
    rw [List.foldl_cons, ih]
    simp [putTrig]

theorem mem_trig_stepExpire (w : SWin) (x : Int) (t : Trig) (hl : 0 < w.lateness) :
    t ∈ (stepExpire w x).1.trig ↔
      (t ∈ w.trig ∨ ∃ s, (s ∈ w.sessions ∧ expiredBy w x s = true) ∧ ⟨s, s.stop + w.lateness⟩ = t) ∧
      x < t.close := by
  simp only [stepExpire, hl, if_true, putTrig_foldl, List.mem_filter, List.mem_append, List.mem_map, mem_sortSess,
    Bool.not_eq_true', decide_eq_false_iff_not, Int.not_le]

theorem reg_expire (w : SWin) (x : Int) (es : List Emission) (hl : 0 < w.lateness)
    (hx : leOpt x w.wm.cur) (h : Reg w es) : Reg (stepExpire w x).1 (es ++ (stepExpire w x).2) := by
  obtain ⟨c, hc, hxc⟩ := hx
  have below : ∀ v, ¬x < v → leOpt v w.wm.cur := fun v hv => ⟨c, hc, Int.le_trans (Int.not_lt.mp hv) hxc⟩
  intro e he hlate
  show (∃ t ∈ (stepExpire w x).1.trig, RegFor w.lateness e t) ∨ leOpt (e.stop + w.lateness) w.wm.cur
  rcases List.mem_append.mp he with he | he
  · rcases h e he hlate with ⟨t, ht, hr⟩ | hb
    · by_cases hx' : x < t.close
      · exact .inl ⟨t, (mem_trig_stepExpire w x t hl).mpr ⟨.inl ht, hx'⟩, hr⟩
      · exact .inr (hr.2.2.2 ▸ below _ hx')
    · exact .inr hb
  · obtain ⟨s, hs, rfl⟩ := (mem_expire_emits w x e).mp he
    by_cases hx' : x < s.stop + w.lateness
    · exact .inl ⟨⟨s, s.stop + w.lateness⟩, (mem_trig_stepExpire w x _ hl).mpr ⟨.inr ⟨s, hs, rfl⟩, hx'⟩,
        rfl, rfl, rfl, rfl⟩
    · exact .inr (below _ hx')

theorem reg_step (w : SWin) (op : Op) (es : List Emission) (hinv : Inv w) (hl : 0 < w.lateness) (h : Reg w es) :
    Reg (step w op).1 (es ++ (step w op).2) := by
  cases op with
  | add k r now =>
    intro e he hlate
    rcases List.mem_append.mp he with he | he
    · exact (h e he hlate).imp (addTrig_keeps w k r now e) (step_move w (.add k r now)).mono
    · rw [add_emits_late w k r now e he] at hlate
      cases hlate
  | addNoTs => exact (List.append_nil es).symm ▸ h
  | tick idle now =>
    intro e he hlate
    exact (h e ((List.append_nil es) ▸ he) hlate).imp_right (step_move w (.tick idle now)).mono
  | deliver =>
    show Reg (stepDeliver w).1 (es ++ (stepDeliver w).2)
    fun_cases stepDeliver w
    case case1 => exact (List.append_nil es).symm ▸ h  -- channel empty
    case case2 x wm' hp =>
      exact reg_expire _ x es hl (popped_le_cur hinv hp) fun e he hlate =>
        (h e he hlate).imp_right (Move.pop hp).mono

theorem reg_run (w : SWin) (ops : List Op) (es : List Emission) (hinv : Inv w) (hl : 0 < w.lateness) (h : Reg w es) :
    Reg (run w ops).1 (es ++ (run w ops).2) := by
  induction ops generalizing w es with
  | nil => exact (List.append_nil es).symm ▸ h
  | cons op ops ih =>
    simp only [run, ← List.append_assoc]
    exact ih _ _ (inv_step w op hinv) ((step_config w op).2 ▸ hl) (reg_step w op es hinv hl h)

end Session
