/-
C06 — scalar expressions follow SQL arithmetic, comparison, logic, CASE and NULL rules.
Statements hold for every number type `ν` with the operations of `NumOps` (no laws; the driver uses
`Float`); the only facts about numbers used are the four of `Num01`, because the hand-written
evaluator compares booleans through their float images.
Not proved, tied by correspondence only: that `xl` describes the third-party expr-lang VM, that
`render` and the Go parsers round-trip, that `env.fn` is what the registered Go functions compute.
-/
import SsqlVerif.Proofs.ExprXl
import SsqlVerif.Proofs.ExprCache
import SsqlVerif.Generated.Facts
set_option autoImplicit false

namespace C06
open Ex

instance intOps : NumOps Int where
  add := (· + ·)
  sub := (· - ·)
  mul := (· * ·)
  div := (· / ·)
  ofNat := Int.ofNat
  isZero := (· == 0)
  isNaN := fun _ => false
  eq := (· == ·)
  lt := fun a b => decide (a < b)
  le := fun a b => decide (a ≤ b)

instance : Num01 Int := ⟨by decide, by decide, by decide, by decide⟩

def ca : Str := ['a']
def cb : Str := ['b']
def cs : Str := ['s']
def cn : Str := ['n']
def cy : Str := ['y']

/-- example environment: no string parses as a number, one function `c` = two-argument COALESCE -/
def env0 : Env Int where
  parseNum := fun _ => none
  parseBool := fun _ => none
  fmtNum := fun _ => []
  fn := fun f args =>
    match f, args with
    | ['c'], [.null, y] => some y
    | ['c'], [x, _] => some x
    | _, _ => none

def n (k : Nat) : Expr := .lit ⟨k, 0⟩
/-- a = 3, b = 2, s = 'q', n = NULL, y missing -/
def row0 : Row Int := [(ca, .num 3), (cb, .num 2), (cs, .str ['q']), (cn, .null)]

/-- FULL statement (visible, false on the code as it is): whenever the SQL value is defined, the
hand-written evaluator produces it (an UNKNOWN condition may show as FALSE).  At `Int`: one instance
refutes it. -/
def implEval_eq_sqlEval_full : Prop :=
  ∀ (env : Env Int) (row : Row Int) (e : Expr) (v : Value Int),
    sqlValue env row e = .ok v → agrees v (handEval env row e)

/-- PARTIAL (proved): on sort-correct expressions (`shapeOK`: value operands for arithmetic,
comparison, calls and simple-CASE values; condition-shaped operands for AND/OR/NOT and WHEN),
for every number type, row and environment. -/
theorem implEval_eq_sqlEval_partial {ν : Type} [NumOps ν] [Num01 ν] (env : Env ν) (row : Row ν) (e : Expr)
    (v : Value ν) (h : sqlValue env row e = .ok v) (hs : shapeOK e .e = true) :
    agrees v (handEval env row e) :=
  (good_expr hs h).ag

/-- on expressions that are not conditions (`boolTyped e = false`) the agreement is exact, NULL flagged as NULL -/
theorem implEval_exact {ν : Type} [NumOps ν] [Num01 ν] (env : Env ν) (row : Row ν) (e : Expr)
    (v : Value ν) (h : sqlValue env row e = .ok v) (hs : shapeOK e .e = true)
    (hb : boolTyped e = false) : handEval env row e = valueRes v :=
  (good_expr hs h).exact hb

/-- as a condition (CASE WHEN, operand of AND/OR) the evaluator says TRUE exactly when SQL does -/
theorem implEval_condition {ν : Type} [NumOps ν] [Num01 ν] (env : Env ν) (row : Row ν) (e : Expr)
    (v : Value ν) (h : sqlValue env row e = .ok v) (hs : shapeOK e .e = true)
    (hb : boolShaped e = true) (ht : isTruth v = true) :
    ev env row e .b = .val (.bool v.isTrue) false :=
  ((good_expr hs h).cond hb ht).1

/-- negation witness for the full statement: `f = (n > 1)` with `f` FALSE and `n` NULL is UNKNOWN in
SQL; the evaluator hands the comparison its operand's two-valued "not true" (FALSE) and answers
TRUE — class `condition-as-operand` (= ¬ `shapeOK`: a condition used as a value operand). -/
theorem implEval_eq_sqlEval_fails : ¬ implEval_eq_sqlEval_full := by
  intro h
  have := h env0 [(['f'], .bool false), (cn, .null)]
    (.cmp .eq (.col ['f']) (.paren (.cmp .gt (.col cn) (n 1)))) .null (by decide)
  revert this
  decide

/-- every expression of the grammar (chain links under their CASE) is built by `expr/parser.go` -/
theorem parser_covers_grammar (e : Expr) : handParses e = true := by
  fun_induction handParses e <;> simp only [Bool.and_self, *]

/-- the evaluator's two value modes coincide (after the missing-column and CASE repairs) -/
theorem value_modes_agree {ν : Type} [NumOps ν] (env : Env ν) (row : Row ν) (e : Expr) :
    ev env row e .v = ev env row e .w := ev_v_eq_w e

/-- parentheses are transparent in the value modes and as a condition -/
theorem paren_transparent {ν : Type} [NumOps ν] (env : Env ν) (row : Row ν) (e : Expr) :
    ev env row (.paren e) .w = ev env row e .w ∧ ev env row (.paren e) .v = ev env row e .v ∧
    ev env row (.paren e) .b = ev env row e .b := ⟨rfl, rfl, rfl⟩

/-- a NULL (or missing) operand makes `+ - * /` NULL, provided the other operand evaluates -/
theorem null_propagates_arith {ν : Type} [NumOps ν] (env : Env ν) (row : Row ν) (op : AOp) (l r : Expr)
    (v : Value ν) (hl : ev env row l .w = .val v true ∨ ev env row r .w = .val v true)
    (hle : ev env row l .w ≠ .err) (hre : ev env row r .w ≠ .err) :
    ev env row (.arith op l r) .w = .val .null true := by
  dsimp only [ev]
  cases h1 : ev env row l .w with
  | err => exact absurd h1 hle
  | val a an =>
    cases h2 : ev env row r .w with
    | err => exact absurd h2 hre
    | val b bn =>
      rcases hl with h | h
      · rw [h1] at h
        cases h
        rfl
      · rw [h2] at h
        cases h
        cases an <;> rfl

/-- a missing column is a NULL operand -/
theorem missing_is_null {ν : Type} [NumOps ν] (env : Env ν) (row : Row ν) (c : Str)
    (h : lookup c row = none) : ev env row (.col c) .w = .val .null true ∧ ev env row (.col c) .v = .val .null true := by
  dsimp only [ev, colRes]
  rw [h]
  exact ⟨rfl, rfl⟩

/-- a comparison with a NULL operand is never TRUE: it is FALSE, or the other operand failed -/
theorem null_compare_not_true {ν : Type} [NumOps ν] (env : Env ν) (row : Row ν) (op : COp) (l r : Expr) (n : Bool)
    (hl : ev env row l .v = .val .null n ∨ ev env row r .v = .val .null n) :
    ev env row (.cmp op l r) .w = .val (.bool false) false ∨ ev env row (.cmp op l r) .w = .err := by
  dsimp only [ev]
  cases h1 : ev env row l .v with
  | err => exact .inr rfl
  | val a an =>
    cases h2 : ev env row r .v with
    | err => exact .inr rfl
    | val b bn =>
      left
      rcases hl with h | h
      · rw [h1] at h
        cases h
        rfl
      · rw [h2] at h
        cases h
        cases a <;> rfl

/-- build the arm chain of a CASE from a list of (WHEN, THEN) pairs and an optional ELSE -/
def mkChain : List (Expr × Expr) → Option Expr → Expr
  | [], none => .endL
  | [], some e => .elseL e
  | (c, r) :: rest, els => .whenL c r (mkChain rest els)

/-- searched CASE returns the THEN of the first arm whose condition is TRUE -/
theorem case_first_true {ν : Type} [NumOps ν] (env : Env ν) (row : Row ν)
    (pre post : List (Expr × Expr)) (c r : Expr) (els : Option Expr)
    (hpre : ∀ p ∈ pre, ∃ n, ev env row p.1 .b = .val (.bool false) n)
    (hc : ∃ n, ev env row c .b = .val (.bool true) n) :
    ev env row (.caseS (mkChain (pre ++ (c, r) :: post) els)) .w = ev env row r .w := by
  induction pre with
  | nil =>
    obtain ⟨_, hc⟩ := hc
    exact ev_whenS r _ hc
  | cons p pre ih =>
    obtain ⟨_, hp⟩ := hpre p (List.mem_cons_self ..)
    obtain ⟨pc, pr⟩ := p
    exact (ev_whenS pr _ hp).trans (ih fun q hq => hpre q (List.mem_cons_of_mem _ hq))

/-- when no condition is true, searched CASE returns its ELSE, or NULL if it has none -/
theorem case_else_null {ν : Type} [NumOps ν] (env : Env ν) (row : Row ν)
    (arms : List (Expr × Expr)) (els : Option Expr)
    (h : ∀ p ∈ arms, ∃ n, ev env row p.1 .b = .val (.bool false) n) :
    ev env row (.caseS (mkChain arms els)) .w =
      match els with
      | some e => ev env row e .w
      | none => .val .null true := by
  induction arms with
  | nil => cases els <;> rfl
  | cons p arms ih =>
    obtain ⟨_, hp⟩ := h p (List.mem_cons_self ..)
    obtain ⟨pc, pr⟩ := p
    exact (ev_whenS pr _ hp).trans (ih fun q hq => h q (List.mem_cons_of_mem _ hq))

/-- the reference semantics has the same ELSE-or-NULL fact -/
theorem sql_case_else_null {ν : Type} [NumOps ν] (env : Env ν) (row : Row ν)
    (arms : List (Expr × Expr)) (els : Option Expr)
    (h : ∀ p ∈ arms, sqlEval env row p.1 .e = .ok (.bool false) ∨ sqlEval env row p.1 .e = .ok .null) :
    sqlValue env row (.caseS (mkChain arms els)) =
      match els with
      | some e => sqlValue env row e
      | none => .ok .null := by
  induction arms with
  | nil => cases els <;> rfl
  | cons p arms ih =>
    have := ih fun q hq => h q (List.mem_cons_of_mem _ hq)
    obtain ⟨pc, pr⟩ := p
    dsimp only [sqlValue, mkChain, sqlEval] at this ⊢
    rcases h (pc, pr) (List.mem_cons_self ..) with hp | hp
    all_goals rw [hp]
    all_goals exact this

/-- FULL statement (false on the code as it is): WHERE keeps a row iff the predicate is TRUE in SQL -/
def where_eq_sqlEval_full : Prop :=
  ∀ (env : Env Int) (row : Row Int) (e : Expr) (b : Bool),
    sqlKeeps env row e = some b → whereEval env row e = b

/-- PARTIAL (proved): when no sub-expression of the predicate is NULL on the row -/
theorem where_eq_sqlEval_partial {ν : Type} [NumOps ν] (env : Env ν) (row : Row ν) (e : Expr) (b : Bool)
    (h : sqlKeeps env row e = some b) (hn : allNonNull env row e = true) :
    whereEval env row e = b := by
  unfold sqlKeeps sqlValue at h
  unfold whereEval
  split at h
  · next hv =>
    rw [xl_sound e hn _ hv]
    exact Option.some.inj h
  · next hv =>
    rw [xl_sound e hn _ hv]
    exact Option.some.inj h
  · cases h

/-- negation witness (the observed defect): `a > 2 AND s != 'q' OR y = 1` on a row with `a` NULL,
`y = 1` is TRUE in SQL; the failing comparison `nil > 2` aborts the whole predicate -/
theorem where_eq_sqlEval_fails : ¬ where_eq_sqlEval_full := by
  intro h
  have := h env0 [(ca, .null), (cs, .str ['k']), (cy, .num 1)]
    (.or (.and (.cmp .gt (.col ca) (n 2)) (.cmp .ne (.col cs) (.str ['q']))) (.cmp .eq (.col cy) (n 1)))
    true (by decide)
  revert this
  decide

/-- the bridge in SELECT position never returns a value other than the SQL one (it may decline)
when no sub-expression is NULL -/
theorem bridge_sound_nonnull {ν : Type} [NumOps ν] (env : Env ν) (row : Row ν) (e : Expr) (v v' : Value ν)
    (h : sqlValue env row e = .ok v) (hn : allNonNull env row e = true)
    (hx : xl env row true e = some v') : v' = v :=
  Option.some.inj ((xl_sel_le e v' hx).symm.trans (xl_sound e hn v h))

/-- Whatever textual route `compileExpressionInfo` picks, the value written to the result row is the
SQL value (conditions up to NULL ≈ FALSE), provided the bridge, when it answers, answers with the SQL
value — which is what is *not* proved of expr-lang. -/
theorem engine_select_sound {ν : Type} [NumOps ν] [Num01 ν] [DecidableEq ν] (env : Env ν) (row : Row ν)
    (e : Expr) (v : Value ν) (t : TextFlags) (bridge : Option (Value ν))
    (h : sqlValue env row e = .ok v) (hs : shapeOK e .e = true)
    (hb : ∀ v', bridge = some v' → sameObs (obsV v) (obsV v') = true) :
    sameObs (obsV v) (obsV (engineSelect (routeOf t) (resOpt (handEval env row e)) bridge)) = true := by
  obtain ⟨hv, hr, hsame⟩ := hand_obs hs h
  rw [hr]
  rcases engineSelect_cases (routeOf t) hv bridge with he | he
  · rw [he]
    exact hsame
  · exact hb _ he

/-- hence: on a NULL-free row the engine's SELECT value is the SQL value on every route, with the
table model as the bridge -/
theorem engine_select_nonnull {ν : Type} [NumOps ν] [Num01 ν] [DecidableEq ν] (env : Env ν) (row : Row ν)
    (e : Expr) (v : Value ν) (t : TextFlags)
    (h : sqlValue env row e = .ok v) (hs : shapeOK e .e = true)
    (hn : allNonNull env row e = true) :
    sameObs (obsV v) (obsV (engineSelect (routeOf t) (resOpt (handEval env row e)) (xl env row true e))) = true := by
  apply engine_select_sound env row e v t _ h hs
  intro v' hx
  have := bridge_sound_nonnull env row e v v' h hn hx
  subst this
  simp [sameObs]

/-- the hand-first routes do not depend on the bridge at all: text without parentheses that has a dot
or no quote -/
theorem engine_select_handfirst {ν : Type} [NumOps ν] [Num01 ν] [DecidableEq ν] (env : Env ν) (row : Row ν)
    (e : Expr) (v : Value ν) (t : TextFlags) (bridge : Option (Value ν))
    (h : sqlValue env row e = .ok v) (hs : shapeOK e .e = true)
    (hr : t.paren = false) (hq : t.quote = false ∨ t.dot = true) :
    sameObs (obsV v) (obsV (engineSelect (routeOf t) (resOpt (handEval env row e)) bridge)) = true := by
  obtain ⟨hv, hr', hsame⟩ := hand_obs hs h
  rw [hr']
  obtain ⟨p, d, q⟩ := t
  dsimp only at hr hq
  subst hr
  rcases hq with rfl | rfl
  · cases d <;> exact hsame
  · exact hsame

/-- For every sequence of evaluations (any texts and rows, any interleaving of engine instances: the
tables are process-wide) from empty tables, each result is what the uncached evaluation gives,
provided compilation is a function of (text, env type). -/
theorem eval_history_free {Text Ty Prog R Rw : Type} [DecidableEq Text] [DecidableEq Ty]
    (prep : Text → Text) (compile : Text → Ty → Option Prog) (run : Option Prog → Rw → R) (tyOf : Rw → Ty)
    (qs : List (Text × Rw)) :
    (Cache.runAll prep compile run tyOf { prog := [], pre := [] } qs).2 =
      qs.map (Cache.evalPure prep compile run tyOf) :=
  Cache.runAll_spec prep compile run tyOf qs _ (Cache.inv_empty prep compile)

/-- the same from any reachable table state: a prefix of evaluations does not change later results -/
theorem eval_history_free_prefix {Text Ty Prog R Rw : Type} [DecidableEq Text] [DecidableEq Ty]
    (prep : Text → Text) (compile : Text → Ty → Option Prog) (run : Option Prog → Rw → R) (tyOf : Rw → Ty)
    (before qs : List (Text × Rw)) :
    (Cache.runAll prep compile run tyOf
        (Cache.runAll prep compile run tyOf { prog := [], pre := [] } before).1 qs).2 =
      qs.map (Cache.evalPure prep compile run tyOf) :=
  Cache.runAll_spec prep compile run tyOf qs _
    (Cache.runAll_inv prep compile run tyOf before _ (Cache.inv_empty prep compile))

-- non-vacuity, at `Int`: precedence / NULL arithmetic / missing column
example : handEval env0 row0 (.arith .sub (.col ca) (.arith .mul (.col cb) (n 2))) = .val (.num (-1)) false := by decide +kernel
example : sqlValue env0 row0 (.arith .sub (.col ca) (.arith .mul (.col cb) (n 2))) = .ok (.num (-1)) := by decide +kernel
example : handEval env0 row0 (.arith .add (.col ca) (.col cn)) = .val .null true := by decide +kernel
example : handEval env0 row0 (.arith .add (.arith .add (.col ca) (.col cy)) (n 1)) = .val .null true := by decide +kernel
-- comparison with NULL: not true; under OR the other side decides
example : handEval env0 row0 (.cmp .gt (.col cn) (n 1)) = .val (.bool false) false := by decide +kernel
example : sqlValue env0 row0 (.cmp .gt (.col cn) (n 1)) = .ok .null := by decide +kernel
example : handEval env0 row0 (.or (.cmp .gt (.col cn) (n 1)) (.cmp .eq (.col cb) (n 2))) =
    .val (.bool true) false := by decide +kernel
example : sqlValue env0 row0 (.or (.cmp .gt (.col cn) (n 1)) (.cmp .eq (.col cb) (n 2))) = .ok (.bool true) := by decide +kernel
-- CASE: first true arm, ELSE, NULL
example : handEval env0 row0 (.caseS (mkChain [(.cmp .gt (.col ca) (n 5), n 1), (.cmp .gt (.col ca) (n 2), n 2)] (some (n 3))))
    = .val (.num 2) false := by decide +kernel
example : handEval env0 row0 (.caseS (mkChain [(.cmp .gt (.col ca) (n 5), n 1)] none)) = .val .null true := by decide +kernel
example : handEval env0 row0 (.caseV (.col cs) (mkChain [(.str ['q'], n 7)] none)) = .val (.num 7) false := by decide +kernel
example : handEval env0 row0 (.caseV (.col cn) (mkChain [(.col cn, n 7)] (some (n 0)))) = .val (.num 0) false := by decide +kernel
-- a call sees the evaluated arguments, NULL included
example : handEval env0 row0 (.call2 ['c'] (.arith .add (.col cn) (n 1)) (n 5)) = .val (.num 5) false := by decide +kernel
-- `shapeOK` is satisfiable, with the operator NOT too; NOT over UNKNOWN is not true
example : shapeOK (.or (.cmp .gt (.col cn) (n 1)) (.not (.cmp .eq (.col cb) (n 2)))) .e = true := by decide +kernel
example : handEval env0 row0 (.not (.cmp .eq (.col cb) (n 2))) = .val (.bool false) false := by decide +kernel
example : handEval env0 row0 (.not (.paren (.cmp .gt (.col cn) (n 1)))) = .val (.bool false) false := by decide +kernel
example : sqlValue env0 row0 (.not (.paren (.cmp .gt (.col cn) (n 1)))) = .ok .null := by decide +kernel
example : handEval env0 row0 (.not (.not (.paren (.cmp .gt (.col ca) (n 1))))) = .val (.bool true) false := by decide +kernel
example : handEval env0 row0 (.not (.paren (.and (.cmp .gt (.col cn) (n 1)) (.cmp .gt (.col ca) (n 5))))) =
    .val (.bool true) false := by decide +kernel
-- WHERE on a NULL-free row
example : allNonNull env0 row0 (.and (.cmp .gt (.col ca) (n 2)) (.cmp .ne (.col cs) (.str ['k']))) = true := by decide +kernel
example : whereEval env0 row0 (.and (.cmp .gt (.col ca) (n 2)) (.cmp .ne (.col cs) (.str ['k']))) = true := by decide +kernel
example : whereEval env0 row0 (.not (.paren (.cmp .gt (.col ca) (n 5)))) = true := by decide +kernel
-- the router
example : routeOf ⟨true, false, false⟩ = .bridgeThenHand ∧ routeOf ⟨false, true, true⟩ = .handOnly ∧
    routeOf ⟨false, false, false⟩ = .handThenBridge ∧ routeOf ⟨false, false, true⟩ = .bridgeThenHand := by
  decide +kernel
-- the cache model really memoises: second evaluation of the same text hits the table
example : (Cache.runAll (Text := Nat) (Ty := Nat) (Prog := Nat) (fun t => t + 1) (fun t ty => some (t * 10 + ty))
    (fun p r => (p, r)) (fun (r : Nat) => r % 2) { prog := [], pre := [] }
    [(1, 4), (1, 6), (1, 5)]).1.prog.length = 2 := by decide +kernel

end C06

/-- Tie to the source: `Facts.*` hold the string literals of the named Go functions, extracted from the
repository.  `unnest(` and the bridge's string-concatenation heuristic are not in the model; a
change to either shows here. -/
theorem C06.facts_routing :
    Facts.stream_Stream_compileExpressionInfo_strlits = ["(", ")", ".", "unnest(", "'\"`"] ∧
    Facts.rsql_lowerLogicalNot_strlits = [")", "NOT", "(", "&&", "||", "!(", "!(", "&&", "||", "(", ")"] ∧
    Facts.expr_isComparisonOperator_strlits = ["==", "=", "!=", "<>", ">", "<", ">=", "<=", "LIKE", "IS"] ∧
    Facts.expr_isLogicalOperator_strlits = ["AND", "OR", "NOT"] ∧
    Facts.expr_evaluateBoolOperator_strlits.take 6 = ["AND", "&&", "OR", "||", "NOT", "!"] ∧
    Facts.functions_ExprBridge_isStringConcatenationExpression_strlits = ["+", "+", "'", "'", "\"", "\"", "_"] :=
  ⟨rfl, rfl, rfl, rfl, rfl, rfl⟩

