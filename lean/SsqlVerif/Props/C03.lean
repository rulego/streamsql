/-
C03 — aggregate functions equal their mathematical definition on the rows of the batch.
Theorems without a `Lawful…` hypothesis hold for every number type, float64 included; `[LawfulOrd ν]`
(strict total order: no NaN, no ±0 mix) is needed where the definition sorts, `[LawfulNum ν]`
(commutative, associative `+`: exact arithmetic) for permutation invariance.
-/
import SsqlVerif.Proofs.GroupAgg
import SsqlVerif.Generated.Facts
set_option autoImplicit false

namespace C03
open Agg AggSpec GroupAgg AggProofs GroupAggProofs

variable {ν : Type} [NumOps ν]

theorem agg_fold_eq_spec_count (e : Env ν) (prm : Param ν) (l : List (Val ν)) :
    run e prm .count l = .one (.flt (NumOps.ofNat (countNonNull l))) :=
  run_eq_value_nosort e prm .count rfl l

theorem agg_fold_eq_spec_sum (e : Env ν) (prm : Param ν) (l : List (Val ν)) :
    run e prm .sum l = .one (numOrNull (nums e l) total) :=
  run_eq_value_nosort e prm .sum rfl l

theorem agg_fold_eq_spec_avg (e : Env ν) (prm : Param ν) (l : List (Val ν)) :
    run e prm .avg l = .one (numOrNull (nums e l) average) :=
  run_eq_value_nosort e prm .avg rfl l

theorem agg_fold_eq_spec_min (e : Env ν) (prm : Param ν) (l : List (Val ν)) :
    run e prm .min l = .one (optNum (least (nums e l))) :=
  run_eq_value_nosort e prm .min rfl l

theorem agg_fold_eq_spec_max (e : Env ν) (prm : Param ν) (l : List (Val ν)) :
    run e prm .max l = .one (optNum (greatest (nums e l))) :=
  run_eq_value_nosort e prm .max rfl l

theorem agg_fold_eq_spec_stddev (e : Env ν) (prm : Param ν) (l : List (Val ν)) :
    run e prm .stddev l = .one (.flt (sampleStdDev (nums e l))) :=
  run_eq_value_nosort e prm .stddev rfl l

theorem agg_fold_eq_spec_stddevs (e : Env ν) (prm : Param ν) (l : List (Val ν)) :
    run e prm .stddevs l = .one (.flt (sampleStdDev (nums e l))) :=
  run_eq_value_nosort e prm .stddevs rfl l

theorem agg_fold_eq_spec_var (e : Env ν) (prm : Param ν) (l : List (Val ν)) :
    run e prm .var l = .one (.flt (populationVariance (nums e l))) :=
  run_eq_value_nosort e prm .var rfl l

theorem agg_fold_eq_spec_vars (e : Env ν) (prm : Param ν) (l : List (Val ν)) :
    run e prm .vars l = .one (.flt (sampleVariance (nums e l))) :=
  run_eq_value_nosort e prm .vars rfl l

/-- median: middle of the sorted values (mean of the two middle ones for an even count) -/
theorem agg_fold_eq_spec_median [LawfulOrd ν] (e : Env ν) (prm : Param ν) (l : List (Val ν)) :
    run e prm .median l = .one (.flt (medianOf (nums e l))) :=
  run_eq_value e prm .median l

/-- percentile: sorted value at index ⌊p·(n-1)⌋ -/
theorem agg_fold_eq_spec_percentile [LawfulOrd ν] (e : Env ν) (prm : Param ν) (l : List (Val ν)) :
    run e prm .percentile l = .one (.flt (percentileOf prm.p (nums e l))) :=
  run_eq_value e prm .percentile l

theorem agg_fold_eq_spec_first_value (e : Env ν) (prm : Param ν) (l : List (Val ν)) :
    run e prm .firstValue l = .one (firstOf l) :=
  run_eq_value_nosort e prm .firstValue rfl l

theorem agg_fold_eq_spec_last_value (e : Env ν) (prm : Param ν) (l : List (Val ν)) :
    run e prm .lastValue l = .one (lastOf l) :=
  run_eq_value_nosort e prm .lastValue rfl l

theorem agg_fold_eq_spec_nth_value (e : Env ν) (prm : Param ν) (l : List (Val ν)) :
    run e prm .nthValue l = .one (nthOf prm.n l) :=
  run_eq_value_nosort e prm .nthValue rfl l

theorem agg_fold_eq_spec_collect (e : Env ν) (prm : Param ν) (l : List (Val ν)) :
    run e prm .collect l = .many l :=
  run_eq_value_nosort e prm .collect rfl l

/-- deduplicate: first occurrences (identity = Go `%v` rendering), arrival order -/
theorem agg_fold_eq_spec_deduplicate (e : Env ν) (prm : Param ν) (l : List (Val ν)) :
    run e prm .dedup l = .many (distinct (keyOf e) l) :=
  run_eq_value_nosort e prm .dedup rfl l

theorem agg_fold_eq_spec_merge_agg (e : Env ν) (prm : Param ν) (l : List (Val ν)) :
    run e prm .mergeAgg l = .one (mergedOf e l) :=
  run_eq_value_nosort e prm .mergeAgg rfl l

theorem agg_fold_eq_spec [LawfulOrd ν] (e : Env ν) (prm : Param ν) (k : Kind) (l : List (Val ν)) :
    run e prm k l = value e prm k l :=
  run_eq_value e prm k l

/-- min / max are the least / greatest usable input -/
theorem agg_min_is_least [LawfulOrd ν] (e : Env ν) (prm : Param ν) (l : List (Val ν)) (m : ν)
    (h : run e prm .min l = .one (.flt m)) :
    m ∈ nums e l ∧ ∀ y ∈ nums e l, NumOps.lt y m = false := by
  rw [agg_fold_eq_spec_min] at h
  exact least_spec _ _ (optNum_eq_flt (Res.one.inj h))

theorem agg_max_is_greatest [LawfulOrd ν] (e : Env ν) (prm : Param ν) (l : List (Val ν)) (m : ν)
    (h : run e prm .max l = .one (.flt m)) :
    m ∈ nums e l ∧ ∀ y ∈ nums e l, NumOps.lt m y = false := by
  rw [agg_fold_eq_spec_max] at h
  exact greatest_spec _ _ (optNum_eq_flt (Res.one.inj h))

/-- the order-insensitive aggregates do not depend on the arrival order of the batch, over exact
arithmetic. Of float64 this is false for sum, avg, stddev(s), var(s) (`+` is not associative there);
count needs no law, min, max, median, percentile only the order laws. -/
theorem agg_perm_invariant [LawfulNum ν] (e : Env ν) (prm : Param ν) (k : Kind)
    (hk : orderInsensitive k = true) {l l' : List (Val ν)} (h : l.Perm l') :
    run e prm k l = run e prm k l' := by
  rw [run_eq_value, run_eq_value]
  exact value_perm e prm k hk h

theorem agg_perm_invariant_sum [LawfulNum ν] (e : Env ν) (prm : Param ν) {l l' : List (Val ν)}
    (h : l.Perm l') : run e prm .sum l = run e prm .sum l' := agg_perm_invariant e prm .sum rfl h
theorem agg_perm_invariant_avg [LawfulNum ν] (e : Env ν) (prm : Param ν) {l l' : List (Val ν)}
    (h : l.Perm l') : run e prm .avg l = run e prm .avg l' := agg_perm_invariant e prm .avg rfl h
theorem agg_perm_invariant_count [LawfulNum ν] (e : Env ν) (prm : Param ν) {l l' : List (Val ν)}
    (h : l.Perm l') : run e prm .count l = run e prm .count l' := agg_perm_invariant e prm .count rfl h
theorem agg_perm_invariant_min [LawfulNum ν] (e : Env ν) (prm : Param ν) {l l' : List (Val ν)}
    (h : l.Perm l') : run e prm .min l = run e prm .min l' := agg_perm_invariant e prm .min rfl h
theorem agg_perm_invariant_max [LawfulNum ν] (e : Env ν) (prm : Param ν) {l l' : List (Val ν)}
    (h : l.Perm l') : run e prm .max l = run e prm .max l' := agg_perm_invariant e prm .max rfl h
theorem agg_perm_invariant_stddev [LawfulNum ν] (e : Env ν) (prm : Param ν) {l l' : List (Val ν)}
    (h : l.Perm l') : run e prm .stddev l = run e prm .stddev l' := agg_perm_invariant e prm .stddev rfl h
theorem agg_perm_invariant_var [LawfulNum ν] (e : Env ν) (prm : Param ν) {l l' : List (Val ν)}
    (h : l.Perm l') : run e prm .var l = run e prm .var l' := agg_perm_invariant e prm .var rfl h
theorem agg_perm_invariant_median [LawfulNum ν] (e : Env ν) (prm : Param ν) {l l' : List (Val ν)}
    (h : l.Perm l') : run e prm .median l = run e prm .median l' := agg_perm_invariant e prm .median rfl h
theorem agg_perm_invariant_percentile [LawfulNum ν] (e : Env ν) (prm : Param ν) {l l' : List (Val ν)}
    (h : l.Perm l') : run e prm .percentile l = run e prm .percentile l' :=
  agg_perm_invariant e prm .percentile rfl h

/-- an aggregator object of an order-insensitive kind ignores NULLs (any number type) -/
theorem agg_null_skipped (e : Env ν) (prm : Param ν) (k : Kind) (hk : orderInsensitive k = true)
    (l : List (Val ν)) : run e prm k (l.filter fun v => !v.isNull) = run e prm k l :=
  run_filter_null e prm k hk l

/-- sum, avg, min, max over no usable input are NULL; count over NULLs only is 0 -/
theorem agg_no_usable_input (e : Env ν) (prm : Param ν) (l : List (Val ν)) (h : nums e l = []) :
    run e prm .sum l = .one .null ∧ run e prm .avg l = .one .null ∧
    run e prm .min l = .one .null ∧ run e prm .max l = .one .null := by
  rw [agg_fold_eq_spec_sum, agg_fold_eq_spec_avg, agg_fold_eq_spec_min, agg_fold_eq_spec_max, h]
  exact ⟨rfl, rfl, rfl, rfl⟩

theorem agg_count_nulls_zero (e : Env ν) (prm : Param ν) (l : List (Val ν))
    (h : ∀ v ∈ l, v.isNull = true) : run e prm .count l = .one (.flt (NumOps.ofNat 0)) :=
  countNonNull_of_nulls l h ▸ agg_fold_eq_spec_count e prm l

/-- in the `GroupAggregator`: a row whose column is missing or whose expression argument fails, or whose
column or expression result is NULL (except for first_value / last_value), leaves the accumulator unchanged -/
theorem ga_null_missing_skipped (e : Env ν) (f : Field ν) (r : Row ν) (st : St ν)
    (h : argOf f r = none ∨ (argOf f r = some .null ∧ allowsNull f.kind = false)) :
    stepField e r f st = st := by
  unfold stepField
  rw [dispatch_eq]
  rcases h with h | ⟨h, hk⟩
  · rw [h]
    rfl
  · rw [h, Option.filter_some, takesPart_eq, hk]
    rfl

/-- `count(*)` counts the rows of the group -/
theorem ga_count_star (e : Env ν) (f : Field ν) (hk : f.kind = .count) (hi : f.input = .star)
    (rows : List (Row ν)) :
    value e f.prm f.kind (inputs f rows) = .one (.flt (NumOps.ofNat rows.length)) := by
  have : countNonNull (inputs f rows) = rows.length := by
    unfold inputs argOf
    rw [hi]
    induction rows with
    | nil => rfl
    | cons r rows ih => exact congrArg (· + 1) ih
  rw [hk]
  exact congrArg (fun n => Res.one (.flt (NumOps.ofNat n))) this

variable {κ : Type} [DecidableEq κ]

/-- `GetResults` after `Add`ing the rows of a batch to a fresh (or reset) aggregator returns one row per
group key, in first-appearance order, each aggregate being the definition applied to the usable inputs of
that group's rows in arrival order -/
theorem ga_results_eq_spec [LawfulOrd ν] (c : Cfg ν κ) (rows : List (Row ν)) :
    getResults c (rows.foldl (GroupAgg.add c) []) = batchResults c rows :=
  getResults_of_runs c rows fun f _ => run_eq_value c.env f.prm f.kind

/-- the same for every number type (float64 included) when no aggregate of the query sorts -/
theorem ga_results_eq_spec_anynum (c : Cfg ν κ) (rows : List (Row ν))
    (hns : ∀ f ∈ c.fields, usesSort f.kind = false) :
    getResults c (rows.foldl (GroupAgg.add c) []) = batchResults c rows :=
  getResults_of_runs c rows fun f hf => run_eq_value_nosort c.env f.prm f.kind (hns f hf)

/-- an expression argument is evaluated per row, then aggregated: the accumulator of such a field
is the aggregator run over `rows.filterMap ev` (evaluation errors dropped), NULL results skipped except
for first_value / last_value -/
theorem agg_expr_arg (e : Env ν) (f : Field ν) (ev : Eval ν) (hi : f.input = .expr ev)
    (rows : List (Row ν)) :
    (fieldRun e f rows).result e f.prm
      = run e f.prm f.kind ((rows.filterMap ev).filter (takesPart f.kind)) := by
  have hp : coerceCol e f = some := by
    funext v
    unfold coerceCol
    rw [hi]
  rw [fieldRun_result, hp, List.filterMap_some, List.filter_filterMap]
  unfold inputs argOf
  rw [hi]

/-- `Add` of a row of another group leaves the table's entries for a group as they are -/
theorem agg_group_isolation (c : Cfg ν κ) (g : State ν κ) (r : Row ν) (k : κ)
    (h : ¬ c.keyOf r = k) (sts : List (St ν)) :
    (k, sts) ∈ GroupAgg.add c g r ↔ (k, sts) ∈ g :=
  mem_add_of_key_ne c g r k h sts

/-- `Reset` returns the state of a new aggregator, whatever was added before -/
theorem agg_reset_is_new (c : Cfg ν κ) (g : State ν κ) (rows : List (Row ν)) :
    reset (rows.foldl (GroupAgg.add c) g) = ([] : State ν κ) := rfl

/-- over a sequence of batches with `Reset` the results of each batch are `batchResults` of that batch
alone, provided the instance starts empty (new or reset) -/
theorem agg_reset_fresh [LawfulOrd ν] (c : Cfg ν κ) (bs : List (List (Row ν))) :
    runBatches c [] bs = bs.map (batchResults c) := by
  have h : (fun b => getResults c (b.foldl (GroupAgg.add c) [])) = batchResults c :=
    funext (ga_results_eq_spec c)
  cases bs with
  | nil => rfl
  | cons b bs =>
    rw [runBatches_cons, h, ga_results_eq_spec]
    rfl

/-- the same without any law on numbers, stated against fresh instances -/
theorem agg_reset_fresh_anynum (c : Cfg ν κ) (g : State ν κ) (b : List (Row ν)) (bs : List (List (Row ν))) :
    runBatches c g (b :: bs)
      = getResults c (b.foldl (GroupAgg.add c) g)
        :: bs.map fun b' => getResults c (b'.foldl (GroupAgg.add c) []) :=
  runBatches_cons c g b bs

end C03

namespace C03.Examples
open Agg AggSpec GroupAgg AggProofs

def env : Env Rat := ⟨fun _ => none, fun _ => [], fun _ => []⟩
def prm : Param Rat := ⟨(1 : Rat) / 2, 2⟩
def vals : List (Val Rat) := [.flt 3, .null, .int 1, .flt ((5 : Rat) / 2), .bool true, .str ['x']]

example : run env prm .sum vals = .one (.flt ((15 : Rat) / 2)) := by decide +kernel
example : run env prm .count vals = .one (.flt 5) := by decide +kernel
example : run env prm .avg vals = .one (.flt ((15 : Rat) / 8)) := by decide +kernel
example : run env prm .min vals = .one (.flt 1) := by decide +kernel
example : run env prm .max vals = .one (.flt 3) := by decide +kernel
example : run env prm .median vals = .one (.flt ((7 : Rat) / 4)) := by decide +kernel
example : run env prm .percentile vals = .one (.flt 1) := by decide +kernel
example : run env prm .var vals = .one (.flt ((51 : Rat) / 64)) := by decide +kernel
example : run env prm .vars vals = .one (.flt ((17 : Rat) / 16)) := by decide +kernel
example : run env prm .firstValue vals = .one (.flt 3) := by decide +kernel
example : run env prm .lastValue vals = .one (.str ['x']) := by decide +kernel
example : run env prm .nthValue vals = .one .null := by decide +kernel
example : run env prm .sum [.null, .str ['x']] = .one .null := by decide +kernel
example : run env prm .count [.null, .null] = .one (.flt 0) := by decide +kernel
example : run env prm .collect [.null, .bool true] = .many [.null, .bool true] := by decide +kernel
example : run env prm .dedup [.str ['a'], .bool true, .str ['a'], .str ['t','r','u','e']]
    = .many [.str ['a'], .bool true] := by decide +kernel
example : run env prm .mergeAgg [.str ['a'], .null, .bool false]
    = .one (.str "a,,false".toList) := by decide +kernel
-- the permutation theorem has instances
example : ([.flt 3, .int 1, .null] : List (Val Rat)).Perm [.null, .flt 3, .int 1] := by decide +kernel
example : run env prm .median [.flt 3, .int 1, .null] = run env prm .median [.null, .flt 3, .int 1] :=
  C03.agg_perm_invariant env prm .median rfl (by decide +kernel)
-- first_value is NOT permutation invariant (so `orderInsensitive` is a real restriction)
example : run env prm .firstValue [.flt 3, .int 1] ≠ run env prm .firstValue [.int 1, .flt 3] := by
  decide +kernel

/-- a two-group, three-field query: `count(*)`, `sum(v)`, `collect(v*2)` grouped by `g` -/
def cfg : Cfg Rat (Option Str) where
  env := env
  fields := [⟨['c'], .count, prm, .star⟩, ⟨['s'], .sum, prm, .col ['v']⟩,
             ⟨['l'], .collect, prm, .expr fun r => match lookup ['v'] r with
                | some (.flt x) => some (.flt (x * 2)) | some .null => some .null | _ => none⟩]
  keyOf r := match lookup ['g'] r with | some (.str s) => some s | _ => none

def rowsA : List (Row Rat) :=
  [[(['g'], .str ['a']), (['v'], .flt 1)], [(['g'], .str ['b']), (['v'], .flt 5)],
   [(['g'], .str ['a']), (['v'], .null)], [(['g'], .str ['a'])], [(['v'], .flt 7)]]

example : getResults cfg (rowsA.foldl (GroupAgg.add cfg) []) =
    [(some ['a'], [(['c'], .one (.flt 3)), (['s'], .one (.flt 1)), (['l'], .many [.flt 2])]),
     (some ['b'], [(['c'], .one (.flt 1)), (['s'], .one (.flt 5)), (['l'], .many [.flt 10])]),
     (none,       [(['c'], .one (.flt 1)), (['s'], .one (.flt 7)), (['l'], .many [.flt 14])])] := by
  decide +kernel
example : runBatches cfg [] [rowsA, [[(['g'], .str ['a'])]]] =
    [batchResults cfg rowsA, [(some ['a'], [(['c'], .one (.flt 1)), (['s'], .one .null), (['l'], .many [])])]] := by
  decide +kernel

end C03.Examples

-- the constants of the Go source the model rests on (`Generated/Facts.lean` is regenerated on every run)
theorem C03.facts_constants :
    -- `len(values) < 2`, `math.Pow(_, 2)`, divisor `len-1` (stddev, stddevs, vars); `< 1`, `Pow(_, 2)` (var)
    Facts.functions_StdDevAggregatorFunction_Result_intlits = [2, 2, 1] ∧
    Facts.functions_StdDevSAggregatorFunction_Result_intlits = [2, 2, 1] ∧
    Facts.functions_VarSAggregatorFunction_Result_intlits = [2, 2, 1] ∧
    Facts.functions_VarAggregatorFunction_Result_intlits = [1, 2] ∧
    -- median: `len == 0`, `len/2`, `len%2 == 0`, `mid-1`, `/ 2`; percentile: `len == 0`, `len-1`, `len-1`
    Facts.functions_MedianAggregatorFunction_Result_intlits = [0, 2, 2, 0, 1, 2] ∧
    Facts.functions_PercentileAggregatorFunction_Result_intlits = [0, 1, 1] ∧
    -- nth_value: `n > 0`, `values[n-1]`; its constructor: arity 2..2, `make(_, 0)`, default `n: 1`; avg: `count == 0`
    Facts.functions_NthValueFunction_Result_intlits = [0, 1] ∧
    Facts.functions_NewNthValueFunction_intlits = [2, 2, 0, 1] ∧
    Facts.functions_AvgFunction_Result_intlits = [0] ∧
    Facts.functions_MergeAggFunction_Result_strlits = [","] ∧
    Facts.functions_DeduplicateAggregatorFunction_Add_strlits = ["%v"] ∧
    -- the registered names (`nth_value` has no such constant: `functions_window.go:232` spells it inline)
    [Facts.functions_SumStr, Facts.functions_AvgStr, Facts.functions_MinStr, Facts.functions_MaxStr,
     Facts.functions_CountStr, Facts.functions_StdDevStr, Facts.functions_StdDevSStr, Facts.functions_VarStr,
     Facts.functions_VarSStr, Facts.functions_MedianStr, Facts.functions_PercentileStr,
     Facts.functions_CollectStr, Facts.functions_FirstValueStr, Facts.functions_LastValueStr,
     Facts.functions_MergeAggStr, Facts.functions_DeduplicateStr]
      = ["sum", "avg", "min", "max", "count", "stddev", "stddevs", "var", "vars", "median", "percentile",
         "collect", "first_value", "last_value", "merge_agg", "deduplicate"] :=
  ⟨rfl, rfl, rfl, rfl, rfl, rfl, rfl, rfl, rfl, rfl, rfl, rfl⟩
