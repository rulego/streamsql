/-
C13: the two-pointer LIKE loop equals the declarative spec. From a state the loop answers a match
from here, or one that re-anchors the last `%` beyond `mi` (`answer`); one unrolling of the spec's
`%` clause is both the back-tracking step and the step onto a new `%`. Every call raises
mi(|p|+1)+pi, which stays below (|t|+1)(|p|+1): hence the fuel of `likeImpl`.
-/
import SsqlVerif.Model.Like
import SsqlVerif.Spec.Like
set_option autoImplicit false

namespace Like
section
variable {α : Type} [DecidableEq α] (pct und : α)

theorem spec_pct_tail (p u : List α) :
    likeSpec pct und (pct :: p) u = (likeSpec pct und p u || likeSpec pct und (pct :: p) u.tail) := by
  cases u <;> simp [likeSpec, tails]

theorem spec_lit (q : α) (hq : q ≠ pct) (p : List α) (c : α) (t : List α) :
    likeSpec pct und (q :: p) (c :: t) = ((decide (q = und) || decide (q = c)) && likeSpec pct und p t) := by
  simp [likeSpec, hq]

theorem spec_lit_nil (q : α) (hq : q ≠ pct) (p : List α) :
    likeSpec pct und (q :: p) [] = false := by
  simp [likeSpec, hq]

theorem spec_nil_cons (c : α) (t : List α) : likeSpec pct und [] (c :: t) = false := by
  simp [likeSpec]

theorem spec_pct_nil (p : List α) : likeSpec pct und (pct :: p) [] = likeSpec pct und p [] := by
  simp [likeSpec, tails]

theorem spec_text_nil (p : List α) : likeSpec pct und p [] = p.all (fun q => decide (q = pct)) := by
  induction p with
  | nil => simp [likeSpec]
  | cons q p ih =>
    by_cases h : q = pct
    · subst h
      simp [spec_pct_nil, ih]
    · simp [spec_lit_nil pct und q h, h]

theorem spec_pct_pct (p u : List α) :
    likeSpec pct und (pct :: pct :: p) u = likeSpec pct und (pct :: p) u := by
  induction u with
  | nil => rw [spec_pct_nil]
  | cons c u ih =>
    rw [spec_pct_tail pct und (pct :: p), List.tail_cons, ih, spec_pct_tail pct und p (c :: u), List.tail_cons,
      Bool.or_assoc, Bool.or_self]

theorem spec_pct_skip (x : α) (hx : x ≠ pct) (p u : List α)
    (h : likeSpec pct und (pct :: x :: p) u = true) : likeSpec pct und (pct :: p) u.tail = true := by
  induction u with
  | nil =>
    rw [spec_pct_nil, spec_lit_nil pct und x hx] at h
    cases h
  | cons c u ih =>
    rw [spec_pct_tail, spec_lit pct und x hx, List.tail_cons, Bool.or_eq_true, Bool.and_eq_true] at h
    rw [List.tail_cons, spec_pct_tail]
    rcases h with h | h
    · rw [h.2, Bool.true_or]
    · rw [ih h, Bool.or_true]

theorem spec_pct_lits (lits q u : List α) (hl : ∀ x ∈ lits, x ≠ pct)
    (h : likeSpec pct und (pct :: (lits ++ q)) u = true) :
    likeSpec pct und (pct :: q) (u.drop lits.length) = true := by
  induction lits generalizing u with
  | nil => exact h
  | cons x xs ih =>
    rw [List.length_cons, ← List.drop_tail]
    exact ih _ (fun y hy => hl y (List.mem_cons_of_mem _ hy))
      (spec_pct_skip pct und x (hl x List.mem_cons_self) _ u h)

omit [DecidableEq α] in
theorem drop_of_getElem? {l : List α} {i : Nat} {x : α} (h : l[i]? = some x) :
    l.drop i = x :: l.drop (i+1) := by
  obtain ⟨hi, rfl⟩ := List.getElem?_eq_some_iff.1 h
  exact List.drop_eq_getElem_cons hi

/-- the text from `i` on matches the pattern from `j` on -/
def matchFrom (t p : List α) (i j : Nat) : Bool := likeSpec pct und (p.drop j) (t.drop i)

/-- a match from here, or one where the last `%` (at `s`) takes the text beyond `mi` -/
def answer (t p : List α) (ti pi : Nat) (star : Option Nat) (mi : Nat) : Bool :=
  matchFrom pct und t p ti pi || match star with
    | some s => matchFrom pct und t p (mi+1) s
    | none => false

/-- since the last `%` (at `s`, anchored at `mi`) the loop has passed the `%`-free run `lits` and
as many symbols of the text -/
structure LInv (t p : List α) (ti pi : Nat) (star : Option Nat) (mi : Nat) : Prop where
  hti : ti ≤ t.length
  hpi : pi ≤ p.length
  hmi : mi ≤ ti
  hstar : ∀ s, star = some s → p[s]? = some pct ∧
    ∃ lits, p.drop (s+1) = lits ++ p.drop pi ∧ mi + lits.length = ti ∧ ∀ x ∈ lits, x ≠ pct

variable {pct und}
variable {t p : List α} {ti pi mi : Nat} {star : Option Nat}

omit [DecidableEq α] in
theorem LInv.anchor {i j : Nat} (hi : i ≤ t.length) (hj : p[j]? = some pct) :
    LInv pct t p i (j+1) (some j) i where
  hti := hi
  hpi := (List.getElem?_eq_some_iff.1 hj).1
  hmi := Nat.le_refl _
  hstar := by
    rintro _ ⟨⟩
    exact ⟨hj, [], rfl, rfl, fun _ h => nomatch h⟩

theorem answer_anchor {i j : Nat} (hj : p[j]? = some pct) :
    answer pct und t p i (j+1) (some j) i = matchFrom pct und t p i j := by
  simp only [answer, matchFrom]
  rw [drop_of_getElem? hj, spec_pct_tail pct und _ (t.drop i), List.tail_drop]

omit [DecidableEq α] in
theorem LInv.advance (h : LInv pct t p ti pi star mi) (hti : ti < t.length) {q : α}
    (hq : p[pi]? = some q) (hne : q ≠ pct) : LInv pct t p (ti+1) (pi+1) star mi where
  hti := hti
  hpi := (List.getElem?_eq_some_iff.1 hq).1
  hmi := Nat.le_succ_of_le h.hmi
  hstar := by
    intro s hs
    obtain ⟨hp, lits, hsplit, hlen, hfree⟩ := h.hstar s hs
    refine ⟨hp, lits ++ [q], ?_, ?_, ?_⟩
    · rw [hsplit, drop_of_getElem? hq, List.append_cons]
    · rw [List.length_append, List.length_singleton, ← Nat.add_assoc, hlen]
    · intro x hx
      rcases List.mem_append.1 hx with hx | hx
      · exact hfree x hx
      · rw [List.mem_singleton.1 hx]
        exact hne

theorem LInv.skip {s : Nat} (h : LInv pct t p ti pi (some s) mi)
    (hM : matchFrom pct und t p (mi+1) s = true) :
    likeSpec pct und (pct :: p.drop pi) (t.drop (ti+1)) = true := by
  obtain ⟨hp, lits, hsplit, hlen, hfree⟩ := h.hstar s rfl
  rw [matchFrom, drop_of_getElem? hp, hsplit] at hM
  have := spec_pct_lits pct und lits _ _ hfree hM
  rwa [List.drop_drop, Nat.add_right_comm, hlen] at this

theorem answer_eq_matchFrom
    (h : ∀ s, star = some s → matchFrom pct und t p (mi+1) s = true → matchFrom pct und t p ti pi = true) :
    answer pct und t p ti pi star mi = matchFrom pct und t p ti pi := by
  cases star with
  | none => exact Bool.or_false _
  | some s => exact Bool.or_eq_left_iff_imp.2 (h s rfl)

variable (pct und)

omit [DecidableEq α] in
theorem fuel_step {K fuel φ φ' : Nat} (h : K < fuel + 1 + φ) (hφ : φ < φ') : K < fuel + φ' := by
  omega

theorem loop_correct (t p : List α) :
    ∀ fuel ti pi star mi, LInv pct t p ti pi star mi →
      (t.length + 1) * (p.length + 1) < fuel + (mi * (p.length + 1) + pi) →
      likeLoop pct und t p fuel ti pi star mi = answer pct und t p ti pi star mi := by
  intro fuel
  induction fuel with
  | zero =>
    intro ti pi star mi hinv hfuel
    have := Nat.mul_le_mul_right (p.length + 1) (Nat.le_trans hinv.hmi hinv.hti)
    have := hinv.hpi
    rw [Nat.add_one_mul] at hfuel
    omega
  | succ fuel ih =>
    intro ti pi star mi hinv hfuel
    unfold likeLoop
    cases htc : t[ti]? with
    | none =>
      dsimp only
      have hlen : ti = t.length := Nat.le_antisymm hinv.hti (List.getElem?_eq_none_iff.1 htc)
      subst hlen
      rw [← spec_text_nil pct und, ← List.drop_length (l := t)]
      refine (answer_eq_matchFrom fun s hs h => ?_).symm
      subst hs
      have := hinv.skip h
      rwa [List.drop_eq_nil_of_le (Nat.le_succ _), spec_pct_nil, ← List.drop_length (l := t)] at this
    | some c =>
      have hlt : ti < t.length := (List.getElem?_eq_some_iff.1 htc).1
      have htdrop := drop_of_getElem? htc
      have anchored : ∀ i j, i ≤ t.length → p[j]? = some pct →
          (t.length + 1) * (p.length + 1) < fuel + (i * (p.length + 1) + (j+1)) →
          likeLoop pct und t p fuel i (j+1) (some j) i = matchFrom pct und t p i j :=
        fun i j hi hj hf => (ih i (j+1) (some j) i (LInv.anchor hi hj) hf).trans (answer_anchor hj)
      have back : matchFrom pct und t p ti pi = false →
          (match (generalizing := false) star with
            | some s => likeLoop pct und t p fuel (mi+1) (s+1) star (mi+1)
            | none => false) = answer pct und t p ti pi star mi := by
        intro hMf
        simp only [answer, hMf, Bool.false_or]
        cases star with
        | none => rfl
        | some s =>
          have hφ : mi * (p.length + 1) + pi < (mi+1) * (p.length + 1) + (s+1) := by
            rw [Nat.add_one_mul, Nat.add_assoc]
            exact Nat.add_lt_add_left (Nat.lt_of_le_of_lt hinv.hpi (Nat.lt_add_right _ (Nat.lt_succ_self _))) _
          exact anchored (mi+1) s (Nat.lt_of_le_of_lt hinv.hmi hlt) (hinv.hstar s rfl).1 (fuel_step hfuel hφ)
      cases hpc : p[pi]? with
      | none =>
        dsimp only
        apply back
        rw [matchFrom, List.drop_eq_nil_of_le (List.getElem?_eq_none_iff.1 hpc), htdrop, spec_nil_cons]
      | some q =>
        have hpdrop := drop_of_getElem? hpc
        dsimp only
        by_cases hq : q = pct
        · -- a new `%`: what the old one could still offer, this one offers too
          subst hq
          rw [if_pos rfl, anchored ti pi hinv.hti hpc (fuel_step hfuel
            (Nat.add_lt_add_of_le_of_lt (Nat.mul_le_mul_right _ hinv.hmi) (Nat.lt_succ_self pi)))]
          refine (answer_eq_matchFrom fun s hs h => ?_).symm
          subst hs
          have := hinv.skip h
          rw [hpdrop, spec_pct_pct, ← List.tail_drop (l := t)] at this
          rw [matchFrom, hpdrop, spec_pct_tail, this, Bool.or_true]
        · rw [if_neg hq]
          have hM : matchFrom pct und t p ti pi =
              (decide (q = und ∨ q = c) && matchFrom pct und t p (ti+1) (pi+1)) := by
            rw [matchFrom, hpdrop, htdrop, spec_lit pct und q hq, ← Bool.decide_or, matchFrom]
          by_cases hmatch : q = und ∨ q = c
          · rw [if_pos hmatch, ih (ti+1) (pi+1) star mi (hinv.advance hlt hpc hq)
              (fuel_step hfuel (Nat.lt_succ_self _))]
            unfold answer
            rw [hM, decide_eq_true hmatch, Bool.true_and]
          · rw [if_neg hmatch]
            apply back
            rw [hM, decide_eq_false hmatch, Bool.false_and]

theorem likeImpl_eq_spec (t p : List α) : likeImpl pct und t p = likeSpec pct und p t := by
  have hinv : LInv pct t p 0 0 none 0 :=
    ⟨Nat.zero_le _, Nat.zero_le _, Nat.le_refl _, fun _ h => nomatch h⟩
  rw [likeImpl, loop_correct pct und t p _ 0 0 none 0 hinv (by omega)]
  exact Bool.or_false _
end
end Like
