/-
C15 — MATCH_RECOGNIZE reports valid leftmost-longest matches per partition.

The theorems hold for every pattern `Compile` accepts, every DEFINE predicate (history-aware), every SKIP mode, every
WITHIN ≥ 0, both engine modes, every row-limit guard value and every history of `Process`/`Flush` calls over any number
of partitions; narrower, as their statements say, are `flush_emits_accepting` (greedy mode) and `cep_complete_longest`
(greedy mode, rows then one final `Flush`, the row limit out of play).  The oracle `Spec.scan` is run on the
implementation's output only; no theorem here is about it.

Not proved (kept visible as `def … : Prop`): `reference_pruning_complete` — that the pruned state key the driver gives the
oracle's reference matcher loses no match (exactness is proved for the unpruned key, soundness for any key).
-/
import SsqlVerif.Proofs.CepCompleteRun
import SsqlVerif.Proofs.CepLower
import SsqlVerif.Proofs.CepWalk
import SsqlVerif.Generated.Facts
set_option autoImplicit false

namespace C15
open Cep Cep.Spec

/-- The Thompson construction of `cep/pattern.go` (sequence, alternation, `?`, `*`, `+`, `{n}`,
`{n,m}`, `{n,}`, groups; PERMUTE is lowered to an alternation of sequences before) accepts
exactly the words of the pattern language: a word labels a path from the start state to the
accept state iff it is in `Lang p`. -/
theorem nfa_accepts_iff_lang (p : Pat) (hv : p.valid) (w : List Sym) :
    Accepts (compile p) w ↔ Lang p w :=
  compile_accepts_iff p hv w

/-- `Compile` on the parser's tree: whenever it succeeds, the compiled core tree has consistent
quantifier bounds and the automaton accepts exactly its language; the trees it rejects are the
ones `lower` rejects (negative min, max < min, PERMUTE over more than 6, exclusion). -/
theorem compileNode_correct (n : PNode) (a : NFA) (h : compileNode n = .ok a) :
    ∃ p, lower n = .ok p ∧ p.valid ∧ a = compile p ∧ ∀ w, Accepts a w ↔ Lang p w := by
  unfold compileNode at h
  obtain ⟨p, hp, rfl⟩ := except_map_ok h
  exact ⟨p, hp, lower_valid n p hp, rfl, compile_accepts_iff p (lower_valid n p hp)⟩

/-- The same for the tree the parser builds, read the way the user wrote it (`Spec.LangN`: n-ary
sequence and alternation, groups, quantifiers with their bounds, PERMUTE = the operands in any
order of their positions): whenever `Compile` accepts the tree, the automaton accepts exactly that
language. -/
theorem pattern_tree_lang (n : PNode) (a : NFA) (h : compileNode n = .ok a) (w : List Sym) :
    Accepts a w ↔ LangN n w := by
  obtain ⟨p, hp, hv, rfl, hacc⟩ := compileNode_correct n a h
  rw [hacc w]
  exact lower_lang n p hp w

/-- PERMUTE(A, B) accepts `B A` -/
example : LangN (.permute [.lit 0, .lit 1]) [1, 0] :=
  ⟨[1, 0], List.Perm.swap 0 1 [], [1], [0], rfl, rfl, [0], [], rfl, rfl, rfl⟩

example : Accepts (compile (.seq (.lit 0) (.rep (.lit 1) 1 none))) [0, 1, 1] :=
  (nfa_accepts_iff_lang _ (by simp [Pat.valid]) _).2
    ⟨[0], [1, 1], rfl, rfl, 2, by omega, (fun m hm => nomatch hm), [1], [1], rfl, rfl, [1], [], rfl, rfl, rfl⟩
example : ¬ Lang (.seq (.lit 0) (.lit 1)) [0] := by
  rintro ⟨u, v, h, hu, hv⟩
  cases hu
  cases hv
  cases h
example : (match lower (.rep (.lit 0) 3 1 true) with | .error .maxLtMin => true | _ => false) = true := by decide
example : (compileNode (.permute [.lit 0, .lit 1])).toOption.map (·.tbl.length) = some 6 := by decide

section
variable {κ ρ : Type} [DecidableEq κ]

/-- the engine configuration `NewEngine` builds for a query -/
def cfgOf (q : Query ρ) (lazy : Bool) (maxRunRows : Nat) : Cfg ρ :=
  { tbl := (compile q.pat).tbl, start := (compile q.pat).start, lazy := lazy, skip := q.skip,
    within := q.within, maxRunRows := maxRunRows, define := q.define, ts := q.ts }

theorem cand_valid (q : Query ρ) (hv : q.pat.valid) (lazy : Bool) (mr : Nat) (H : List ρ) (b : Run ρ)
    (hb : Cand (cfgOf q lazy mr) H b) :
    ValidMatch q b.hist ∧ 1 ≤ b.startSeq ∧ b.hist.map (·.1) = (H.drop (b.startSeq - 1)).take b.hist.length := by
  obtain ⟨hok, hne, hacc⟩ := hb
  refine ⟨⟨hne, ?_, hok.defs, ?_⟩, hok.start_pos, hok.rows⟩
  · unfold runAccepting hasAccept at hacc
    obtain ⟨i, hi, hai⟩ := List.any_eq_true.1 hacc
    obtain rfl : i = acceptIdx := (compile_accept_iff q.pat hv i).1 hai
    obtain ⟨n, hp⟩ := hok.path acceptIdx hi
    exact (compile_accepts_iff q.pat hv _).1 ⟨n, hp⟩
  · cases hh : b.hist with
    | nil => exact absurd hh hne
    | cons x xs =>
      simp only [List.map_cons, withinOK, List.all_eq_true, List.mem_map, decide_eq_true_eq]
      rintro y ⟨z, hz, rfl⟩
      have h1 := hok.within z (hh ▸ List.mem_cons_of_mem _ hz)
      have h2 : q.ts x.1 = b.startTs := hok.startTs x (congrArg List.head? hh)
      exact h2 ▸ h1

/-- Whatever the history of `Process` / `Flush` calls: every reported
match is a non-empty run of *consecutive rows of its own partition* (arrival order, rows
`startSeq … startSeq+len-1`), its classification spells a word of the PATTERN, every row
satisfies the DEFINE condition of its variable evaluated against the rows matched before it,
and every row lies within WITHIN of the first. -/
theorem emitted_match_valid (q : Query ρ) (hv : q.pat.valid) (hw : 0 ≤ q.within) (lazy : Bool) (mr : Nat)
    (ops : List (Op κ ρ)) :
    ∀ o ∈ (run (cfgOf q lazy mr) ({} : Engine κ ρ) ops).2, ∀ km ∈ o,
      ValidMatch q km.2.rows ∧ 1 ≤ km.2.startSeq ∧
      km.2.rows.map (·.1) = ((histOf km.1 ops).drop (km.2.startSeq - 1)).take km.2.rows.length := by
  intro o ho km hkm
  have hm : km.2 ∈ outsOf km.1 (run (cfgOf q lazy mr) ({} : Engine κ ρ) ops).2 :=
    List.mem_map.2 ⟨km, List.mem_filter.2 ⟨List.mem_flatten.2 ⟨o, ho, hkm⟩, beq_self_eq_true _⟩, rfl⟩
  obtain ⟨b, hb, h1, h2⟩ := (run_init_ok (c := cfgOf q lazy mr) hw km.1 ops).2.out _ hm
  rw [h1, h2]
  exact cand_valid q hv lazy mr _ b hb

/-- Under AFTER MATCH SKIP PAST LAST ROW two matches reported
for one partition never share a row: a later match starts after the last row of an earlier one
(`startSeq`s are positions in the partition's arrival order by `emitted_match_valid`). -/
theorem skip_past_last_row_disjoint (c : Cfg ρ) (hw : 0 ≤ c.within) (hs : c.skip = Skip.pastLast)
    (ops : List (Op κ ρ)) (k : κ) :
    (outsOf k (run c ({} : Engine κ ρ) ops).2).Pairwise
      (fun m1 m2 => m1.startSeq + m1.rows.length ≤ m2.startSeq) :=
  (run_init_ok hw k ops).2.chain.disjoint hs

/-- In every SKIP mode the matches of a partition are reported leftmost-first: their first rows
are strictly increasing positions. -/
theorem match_starts_increasing (c : Cfg ρ) (hw : 0 ≤ c.within) (ops : List (Op κ ρ)) (k : κ) :
    (outsOf k (run c ({} : Engine κ ρ) ops).2).Pairwise (fun m1 m2 => m1.startSeq < m2.startSeq) :=
  (run_init_ok hw k ops).2.chain.increasing

/-- MATCH_NUMBER counts 1, 2, 3, … per partition, in the order of reporting. -/
theorem match_number_sequential (c : Cfg ρ) (hw : 0 ≤ c.within) (ops : List (Op κ ρ)) (k : κ) :
    (outsOf k (run c ({} : Engine κ ρ) ops).2).map (·.matchNo) =
      List.range' 1 (outsOf k (run c ({} : Engine κ ρ) ops).2).length := by
  simpa using (run_init_ok hw k ops).2.chain.numbers.1

/-- Greedy mode, any history `ops`, then `Flush` (Stop): every
accepting candidate a partition still holds at or after its resumption point — a pending
completion or a live run whose state set accepts (an unfinished `A+`) — is accounted for in the
flush output of that partition: a match from the same start at least as long is reported, or
the candidate's start lies in the rows a reported match with an earlier start skips. -/
theorem flush_emits_accepting (c : Cfg ρ) (hw : 0 ≤ c.within) (hl : c.lazy = false) (ops : List (Op κ ρ)) (k : κ)
    (x : Run ρ)
    (hx : x ∈ (getPart (run c ({} : Engine κ ρ) ops).1 k).pending ∨
          (x ∈ (getPart (run c ({} : Engine κ ρ) ops).1 k).runs ∧ runAccepting c x = true))
    (hge : (getPart (run c ({} : Engine κ ρ) ops).1 k).nextStart ≤ x.startSeq) :
    ∃ m ∈ outsOf k [(step c (run c ({} : Engine κ ρ) ops).1 Op.flush).2],
      m.startSeq ≤ x.startSeq ∧ x.startSeq < skipToM c m.startSeq m.rows ∧
      (m.startSeq = x.startSeq → x.hist.length ≤ m.rows.length) := by
  have hinv := (run_init_ok hw k ops).1
  rw [(Prod.mk.inj (step_getPart_outsOf c hinv.nodup Op.flush k)).2]
  exact flushPart_decides hl (hinv.inv k) x hx hge

/-- The matches reported for partition `k` (content, order,
MATCH_NUMBER) are those reported when only `k`'s rows (and the flushes) are fed. -/
theorem cep_partition_isolation (c : Cfg ρ) (ops : List (Op κ ρ)) (k : κ) :
    outsOf k (run c ({} : Engine κ ρ) ops).2 =
      outsOf k (run c ({} : Engine κ ρ) (ops.filter (relevant k))).2 :=
  outsOf_run_relevant k ops _ _ List.nodup_nil List.nodup_nil rfl

-- `hw` is not needed: the first row enters by `Reached.first`, which has no WITHIN test
set_option linter.unusedVariables false in
/-- Every valid match in the sense of the spec — a classified run of consecutive rows of a partition,
starting at row `s` — is one of the runs the engine explores, and it is accepting there (`mr + 1`: the engine tests
the row limit before a row is consumed). -/
theorem valid_match_explored (q : Query ρ) (hv : q.pat.valid) (hw : 0 ≤ q.within) (lazy : Bool) (mr : Nat)
    (H : List ρ) (s : Nat) (w : List (ρ × Sym)) (hs : 1 ≤ s)
    (hrows : ∀ (j : Nat) (x : ρ × Sym), w[j]? = some x → H[s - 1 + j]? = some x.1)
    (hvm : ValidMatch q w) (hmr : w.length ≤ mr + 1) :
    ∃ r, Reached (cfgOf q lazy mr) H r ∧ r.startSeq = s ∧ r.hist = w ∧ runAccepting (cfgOf q lazy mr) r = true := by
  obtain ⟨hne, hword, hdef, hwin⟩ := hvm
  obtain ⟨x, xs, rfl⟩ := List.exists_cons_of_ne_nil hne
  obtain ⟨hwf, hst⟩ := compile_wf q.pat
  obtain ⟨n, hp⟩ := (compile_accepts_iff q.pat hv _).2 hword
  obtain ⟨hin, hcl⟩ := closure_closed (compile q.pat).tbl hwf (compile q.pat).start hst
  simp only [defOK, Bool.and_eq_true] at hdef
  simp only [List.map_cons, withinOK, List.all_eq_true, List.mem_map, decide_eq_true_eq] at hwin
  -- the first row starts the run from the seed, the others extend it
  obtain ⟨o, n', hadv, hocl, hoin, p2⟩ := advance_of_path (cfgOf q lazy mr) hwf
    (cur := seedRun (cfgOf q lazy mr) (q.ts x.1) s) hcl hin hp hdef.1
  exact extend_reached (cfgOf q lazy mr) hwf ((compile_accept_iff q.pat hv acceptIdx).2 rfl) H xs _
    o n' hocl hoin p2 (.first hs (hrows 0 x rfl) hadv)
    (fun j y hy => by
      have := hrows (j + 1) y hy
      rwa [Nat.add_comm j 1, ← Nat.add_assoc] at this)
    hdef.2 (fun y hy => hwin _ ⟨y, hy, rfl⟩) (Nat.add_comm _ _ ▸ hmr)

/-- Greedy quantifiers, the row-limit guard out of play (`mr` at least the
number of ops), any stream of rows over any partitions followed by `Flush` (Stop).  For every
partition `k` and every valid match `w` of the spec that starts at row `s` of `k`'s rows, some
reported match `m` of `k` *decides* `s`: `m` starts at or before `s`, `s` lies before the row where
the scan resumes after `m` (the AFTER MATCH SKIP rule), and if `m` starts at `s` itself then `m` is at
least as long as `w`.  Hence no valid match is omitted except by the SKIP rule of an earlier reported
match, starts are taken leftmost-first, and the match reported for a start is the longest one. -/
theorem cep_complete_longest (q : Query ρ) (hv : q.pat.valid) (hw : 0 ≤ q.within) (mr : Nat)
    (ops : List (Op κ ρ)) (hrowops : ∀ op ∈ ops, isRow op = true) (hmr : ops.length ≤ mr) (k : κ)
    (s : Nat) (w : List (ρ × Sym)) (hs : 1 ≤ s)
    (hrows : ∀ (j : Nat) (x : ρ × Sym), w[j]? = some x → (histOf k ops)[s - 1 + j]? = some x.1)
    (hvm : ValidMatch q w) :
    ∃ m ∈ outsOf k (run (cfgOf q false mr) ({} : Engine κ ρ) (ops ++ [Op.flush])).2,
      m.startSeq ≤ s ∧ s < skipToM (cfgOf q false mr) m.startSeq m.rows ∧
      (s = m.startSeq → w.length ≤ m.rows.length) := by
  have hlen : w.length ≤ mr + 1 := by
    -- the last row of `w` is one of `k`'s rows, and these are at most `mr`
    obtain ⟨n, hn⟩ := Nat.exists_eq_succ_of_ne_zero (Nat.ne_of_gt (List.length_pos_iff.2 hvm.nonempty))
    have hn' : n < w.length := hn ▸ Nat.lt_succ_self n
    have hlt := Nat.lt_of_lt_of_le (List.getElem?_eq_some_iff.1 (hrows n _ (List.getElem?_eq_getElem hn'))).1
      (histOf_length_le k ops)
    exact hn ▸ Nat.succ_le_succ (Nat.le_trans (Nat.le_of_lt (Nat.lt_of_le_of_lt (Nat.le_add_left n _) hlt)) hmr)
  obtain ⟨r, hr, rfl, rfl, hra⟩ := valid_match_explored q hv hw false mr (histOf k ops) s w hs hrows hvm hlen
  exact run_then_flush_covers (c := cfgOf q false mr) rfl hw k ops hrowops r hr hra

/-- The executable brute-force reference matcher the oracle runs (`Spec.matchesFrom`, recursion on
the pattern, no automaton), with the classification itself as state key, reports exactly the valid
matches of the declarative definition that start with the first of `rows`. -/
theorem reference_matcher_exact (q : Query ρ) (hv : q.pat.valid) (hk : q.keySyms = none) (rows : List ρ)
    (m : List (ρ × Sym)) :
    m ∈ matchesFrom q rows ↔ (ValidMatch q m ∧ m.map (·.1) = rows.take m.length) :=
  matchesFrom_exact q hv hk rows m

/-- With any pruning key (the driver collapses the variables no DEFINE condition looks back at)
everything the reference reports is a valid match. -/
theorem reference_matcher_sound (q : Query ρ) (hv : q.pat.valid) (rows : List ρ) (m : List (ρ × Sym))
    (h : m ∈ matchesFrom q rows) : ValidMatch q m ∧ m.map (·.1) = rows.take m.length :=
  matchesFrom_sound q hv rows m h

/-- **Unproved.**  Pruning the reference's search with a coarser state key loses no match length when
the DEFINE conditions look at the classification of earlier rows only through the variables in the key. -/
def reference_pruning_complete : Prop :=
  ∀ (ρ : Type) (q : Query ρ) (ks : List Sym) (rows : List ρ), q.pat.valid →
    (∀ (a : Sym) (h h' : List (ρ × Sym)) (r : ρ), h.map (·.1) = h'.map (·.1) →
      (h.map fun x => if ks.contains x.2 then x.2 + 1 else 0) = (h'.map fun x => if ks.contains x.2 then x.2 + 1 else 0) →
      q.define a h r = q.define a h' r) →
    ∀ n, n ∈ validLens { q with keySyms := none } rows → n ∈ validLens { q with keySyms := some ks } rows

end

/-! Non-vacuity: PATTERN (A A), partition 0 rows 1..4 interleaved with a row of partition 1: matches (1,2), (3,4) -/

def demoQuery : Query Nat :=
  { pat := .seq (.lit 0) (.lit 0), skip := .pastLast, within := 100, define := fun _ _ _ => true,
    ts := fun r => (r : Int), greedy := true }

def demoOps : List (Op Nat Nat) :=
  [.row 0 1, .row 1 2, .row 0 3, .row 0 4, .row 0 5, .flush]

example : (outsOf 0 (run (cfgOf demoQuery false 100) {} demoOps).2).map
    (fun m => (m.matchNo, m.startSeq, m.rows.map (·.1))) = [(1, 1, [1, 3]), (2, 3, [4, 5])] := by decide

example : histOf 0 demoOps = [1, 3, 4, 5] := by decide

/-- `cep_complete_longest` instantiated: the valid match at positions 2,3 is decided by match 1 (start 1, resumes at 3) -/
example : ∃ m ∈ outsOf 0 (run (cfgOf demoQuery false 100) ({} : Engine Nat Nat) (demoOps.take 5 ++ [Op.flush])).2,
    m.startSeq ≤ 2 ∧ 2 < skipToM (cfgOf demoQuery false 100) m.startSeq m.rows ∧
    (2 = m.startSeq → [((3 : Nat), (0 : Sym)), (4, 0)].length ≤ m.rows.length) :=
  cep_complete_longest demoQuery (by simp [demoQuery, Pat.valid]) (by simp [demoQuery]) 100 (demoOps.take 5)
    (by decide) (by decide) 0 2 [(3, 0), (4, 0)] (by decide)
    (by
      intro j x hx
      match j, hx with
      | 0, hx =>
        simp at hx
        subst hx
        decide
      | 1, hx =>
        simp at hx
        subst hx
        decide
      | n+2, hx => simp at hx)
    { nonempty := by simp
      word := ⟨[0], [0], rfl, rfl, rfl⟩
      define := by decide
      within := by decide }

/-- a pending accepting run that only `Flush` reports: PATTERN (A+), rows A A, then Stop -/
example : (outsOf 0 (run (cfgOf { demoQuery with pat := .rep (.lit 0) 1 none } false 100) {}
    ([.row 0 1, .row 0 2, .flush] : List (Op Nat Nat))).2).map (fun m => (m.matchNo, m.startSeq, m.rows.length)) =
    [(1, 1, 2)] := by decide

end C15

/-! Tie to the constants of the source.  `0 < defaultWithin`: `NewEngine` replaces a WITHIN ≤ 0 by the default, hence the
`0 ≤ within` of the theorems.  `cep_Engine_skipTo_intlits`: the literals of Go `skipTo` in source order (`endSeq = … - 1`,
next row `+ 1`, `s >= 0`, after the label row `s + 1`, `endSeq + 1`), the `+ 1`s of `Cep.skipTo` / `Cep.skipAfterLabel`. -/
theorem C15.facts_cep :
    Facts.types_DefaultMatchWithin = 3600000000000 ∧ 0 < Cep.defaultWithin ∧
    Facts.cep_defaultMaxRunRows = 10000 ∧ Facts.cep_defaultMaxRuns = 10000 ∧ Facts.cep_defaultMaxPartitions = 10000 ∧
    (Facts.cep_stEpsilon, Facts.cep_stMatch, Facts.cep_stAccept) = (0, 1, 2) ∧
    (Facts.types_SkipPastLastRow, Facts.types_SkipToNextRow, Facts.types_SkipToFirst, Facts.types_SkipToLast,
      Facts.types_SkipToVariable) = (0, 1, 2, 3, 4) ∧
    Facts.cep_Engine_skipTo_intlits = [1, 1, 0, 1, 1] := by decide
