/-
`fieldpath.GetNestedField` (string level: split on dots, bracket loop, Atoi, quote stripping) applied to
the text of a well-formed path equals the structural walk of the spec.  On such a text `ParseFieldPath`
succeeds with at least one part, so neither the dot-split fallback nor the empty-path arm is taken.
-/
import SsqlVerif.Proofs.PipeStr
import SsqlVerif.Spec.Pipeline
set_option autoImplicit false

namespace Pipe
open PipeSpec

/-- bytes of what stands between the punctuation of a path: names, keys, decimal numbers -/
def tokChar (c : Char) : Bool := identChar c || c = '-'

/-- bytes of a rendered component -/
def compChar (c : Char) : Bool := tokChar c || c = '[' || c = ']' || c = '\''

def partOfSub : Sub → Part
  | .idx i => .index i
  | .key k => .key k

def partsOfComp (c : Comp) : List Part := .field c.name :: c.subs.map partOfSub

/-- the `Part` list `ParseFieldPath` produces for the text of a spec path -/
def partsOfComps : List Comp → List Part
  | [] => []
  | c :: cs => partsOfComp c ++ partsOfComps cs

theorem tokChar_of_ident (c : Char) (h : identChar c = true) : tokChar c = true := by simp [tokChar, h]

theorem compChar_of_tok (c : Char) (h : tokChar c = true) : compChar c = true := by simp [compChar, h]

theorem tokChar_not_space (c : Char) (hc : tokChar c = true) : isAsciiSpace c = false := by
  cases hs : isAsciiSpace c with
  | false => rfl
  | true =>
    exfalso
    simp only [isAsciiSpace, Bool.or_eq_true, decide_eq_true_eq] at hs
    rcases hs with ((((h | h) | h) | h) | h) | h
    all_goals
      subst h
      revert hc
      decide

theorem itoa_tok (i : Int) : (itoa i).all tokChar = true := by
  have h (n : Nat) : (Nat.toDigits 10 n).all tokChar = true :=
    all_imp (fun c hc => by simp [tokChar, identChar, Char.isAlphanum, hc]) (toDigits_all_isDigit n)
  fun_cases itoa i with
  | case1 hneg =>  -- negative
    rw [List.all_cons, h]
    rfl
  | case2 hneg => exact h _  -- non-negative

theorem isIdent_all (s : Str) (h : isIdent s = true) : s.all identChar = true := by
  simp only [isIdent, Bool.and_eq_true] at h
  exact h.2

theorem isIdent_ne_nil (s : Str) (h : isIdent s = true) : s ≠ [] := by
  rintro rfl
  cases h

theorem parseBracketContent_itoa (i : Int) (hlo : -(int64Bound : Int) ≤ i) (hhi : i < (int64Bound : Int)) :
    parseBracketContent (itoa i) = .ok (.index i) := by
  have htok := itoa_tok i
  have hq : isQuoted (itoa i) = false := by
    have h1 := head?_ne_of_all _ '\'' htok (by decide)
    have h2 := head?_ne_of_all _ '"' htok (by decide)
    simp [isQuoted, h1, h2]
  unfold parseBracketContent
  rw [trimSpace_id _ fun c hc => tokChar_not_space c (List.all_eq_true.mp htok c hc), hq, atoi_itoa i hlo hhi]
  rfl

theorem getLast?_wrapped (q : Char) (k : Str) : (q :: (k ++ [q])).getLast? = some q :=
  List.getLast?_concat (l := q :: k)

theorem inner_quoted (q : Char) (k : Str) : inner (q :: (k ++ [q])) = k :=
  List.dropLast_concat

theorem parseBracketContent_key (k : Str) (hk : k.all identChar = true) :
    parseBracketContent ('\'' :: (k ++ ['\''])) = .ok (.key k) := by
  have hsp : ∀ c ∈ '\'' :: (k ++ ['\'']), isAsciiSpace c = false := by
    intro c hc
    simp only [List.mem_cons, List.mem_append, List.not_mem_nil, or_false] at hc
    rcases hc with rfl | h | rfl
    · rfl
    · exact tokChar_not_space c (tokChar_of_ident c (List.all_eq_true.mp hk c h))
    · rfl
  unfold parseBracketContent
  rw [trimSpace_id _ hsp]
  simp [isQuoted, getLast?_wrapped, inner_quoted]

theorem bracketLoop_step (fuel : Nat) (content rest : Str) (acc : List Part) (p : Part)
    (hc : ']' ∉ content) (hp : parseBracketContent content = .ok p) :
    bracketLoop (fuel + 1) ('[' :: (content ++ ']' :: rest)) acc = bracketLoop fuel rest (acc ++ [p]) := by
  simp only [bracketLoop, takeUntil_dropAfter_sep _ _ _ hc, hp]

theorem renderSub_idx (i : Int) (t : Str) : renderSub (.idx i) ++ t = '[' :: (itoa i ++ ']' :: t) := by
  rw [renderSub, List.cons_append, List.append_assoc]
  rfl

theorem renderSub_key (k t : Str) : renderSub (.key k) ++ t = '[' :: (('\'' :: (k ++ ['\''])) ++ ']' :: t) := by
  simp [renderSub]

theorem bracketLoop_renderSub (s : Sub) (hs : subWF s = true) (fuel : Nat) (rest : Str) (acc : List Part) :
    bracketLoop (fuel + 1) (renderSub s ++ rest) acc = bracketLoop fuel rest (acc ++ [partOfSub s]) := by
  cases s with
  | idx i =>
    simp only [subWF, Bool.and_eq_true, decide_eq_true_eq] at hs
    rw [renderSub_idx]
    exact bracketLoop_step _ _ _ _ _ (all_not_mem _ ']' (itoa_tok i) (by decide))
      (parseBracketContent_itoa i hs.1 hs.2)
  | key k =>
    have hk : k.all identChar = true := hs
    rw [renderSub_key]
    refine bracketLoop_step _ _ _ _ _ ?_ (parseBracketContent_key k hk)
    simp [all_not_mem k ']' hk (by decide)]

theorem bracketLoop_render (subs : List Sub) (hs : subs.all subWF = true) :
    ∀ (fuel : Nat) (acc : List Part), subs.length ≤ fuel →
      bracketLoop fuel (renderSubs subs) acc = .ok (acc ++ subs.map partOfSub) := by
  induction subs with
  | nil =>
    intro fuel acc _
    rw [List.map_nil, List.append_nil]
    cases fuel <;> rfl
  | cons s ss ih =>
    intro fuel acc hf
    rw [List.all_cons, Bool.and_eq_true] at hs
    cases fuel with
    | zero => cases hf
    | succ fuel =>
      rw [renderSubs, bracketLoop_renderSub s hs.1, ih hs.2 fuel _ (Nat.le_of_succ_le_succ hf), List.append_assoc]
      rfl

theorem renderSubs_cons_lbracket (s : Sub) (ss : List Sub) : ∃ t, renderSubs (s :: ss) = '[' :: t := by
  cases s <;> exact ⟨_, rfl⟩

theorem renderSubs_length (subs : List Sub) : subs.length ≤ (renderSubs subs).length := by
  induction subs with
  | nil => exact Nat.le_refl _
  | cons s ss ih =>
    have h1 : 1 ≤ (renderSub s).length := by cases s <;> exact Nat.succ_le_succ (Nat.zero_le _)
    rw [renderSubs, List.length_append, List.length_cons, Nat.add_comm]
    exact Nat.add_le_add h1 ih

/-- the fuel is never the reason the loop stops (each iteration consumes at least `[` and `]`);
`parseComplexPart` starts it with `len(part)` on a suffix of `part`, so the bound holds there -/
theorem bracketLoop_fuel_succ (fuel : Nat) (rem : Str) (acc : List Part) (h : rem.length ≤ fuel) :
    bracketLoop (fuel + 1) rem acc = bracketLoop fuel rem acc := by
  fun_induction bracketLoop fuel rem acc with
  | case1 rem acc =>  -- fuel 0
    cases List.eq_nil_of_length_eq_zero (Nat.le_zero.mp h)
    rfl
  | case2 fuel acc rest hd => rw [bracketLoop, hd]  -- no `]`
  | case3 fuel acc rest after hd e hp => rw [bracketLoop, hd, hp]  -- bad content
  | case4 fuel acc rest after hd p hp ih =>  -- one step
    rw [bracketLoop, hd, hp]
    exact ih (Nat.le_of_lt (Nat.lt_of_lt_of_le (dropAfter_length_lt ']' rest after hd) (Nat.le_of_succ_le_succ h)))
  | case5 fuel rem acc hne =>  -- no `[`
    unfold bracketLoop
    split
    · exact absurd rfl (hne _)
    · rfl

theorem renderSub_all (s : Sub) (hs : subWF s = true) : (renderSub s).all compChar = true := by
  cases s with
  | idx i => simp [renderSub, all_imp compChar_of_tok (itoa_tok i), compChar]
  | key k =>
    have hk : k.all identChar = true := hs
    simp [renderSub, all_imp (fun c h => compChar_of_tok c (tokChar_of_ident c h)) hk, compChar]

theorem renderSubs_all (subs : List Sub) (hs : subs.all subWF = true) : (renderSubs subs).all compChar = true := by
  induction subs with
  | nil => rfl
  | cons s ss ih =>
    rw [List.all_cons, Bool.and_eq_true] at hs
    rw [renderSubs, List.all_append, renderSub_all s hs.1, ih hs.2]
    rfl

theorem renderComp_all (c : Comp) (hc : compWF c = true) : (renderComp c).all compChar = true := by
  simp only [compWF, Bool.and_eq_true] at hc
  rw [renderComp, List.all_append, renderSubs_all _ hc.2,
    all_imp (fun c h => compChar_of_tok c (tokChar_of_ident c h)) (isIdent_all _ hc.1)]
  rfl

theorem parseComplexPart_eq (name t : Str) (acc : List Part) (hb : '[' ∉ name) (hne : name ≠ []) :
    parseComplexPart (name ++ '[' :: t) acc =
      bracketLoop (name ++ '[' :: t).length ('[' :: t) (acc ++ [.field name]) := by
  rw [parseComplexPart, leadingField, (takeUntil_dropAfter_sep _ _ _ hb).1, if_neg hne, List.drop_left]

theorem parsePart_render (c : Comp) (hc : compWF c = true) (acc : List Part) :
    parsePart (renderComp c) acc = .ok (acc ++ partsOfComp c) := by
  simp only [compWF, Bool.and_eq_true] at hc
  obtain ⟨hname, hsubs⟩ := hc
  have hne := isIdent_ne_nil _ hname
  have hb : '[' ∉ c.name := all_not_mem _ '[' (isIdent_all _ hname) (by decide)
  have hne' : renderComp c ≠ [] := fun e => hne (List.append_eq_nil_iff.mp e).1
  rw [parsePart, if_neg hne', renderComp, partsOfComp]
  cases hsub : c.subs with
  | nil =>
    rw [renderSubs, List.append_nil, List.contains_eq_mem, decide_eq_false hb]
    rfl
  | cons s ss =>
    obtain ⟨t, ht⟩ := renderSubs_cons_lbracket s ss
    have hlen : (s :: ss).length ≤ (c.name ++ renderSubs (s :: ss)).length := by
      rw [List.length_append]
      exact Nat.le_trans (renderSubs_length _) (Nat.le_add_left _ _)
    rw [hsub] at hsubs
    rw [ht, if_pos (by simp), parseComplexPart_eq _ _ _ hb hne, ← ht,
      bracketLoop_render _ hsubs _ _ hlen, List.append_assoc]
    rfl

theorem parseParts_render (cs : List Comp) (hcs : cs.all compWF = true) (acc : List Part) :
    parseParts (cs.map renderComp) acc = .ok (acc ++ partsOfComps cs) := by
  induction cs generalizing acc with
  | nil => simp [parseParts, partsOfComps]
  | cons c rest ih =>
    rw [List.all_cons, Bool.and_eq_true] at hcs
    simp only [List.map_cons, parseParts, parsePart_render c hcs.1, ih hcs.2, partsOfComps, List.append_assoc]

theorem splitChar_renderRest (first : Str) (hf : '.' ∉ first) (rest : List Comp) (hr : rest.all compWF = true) :
    splitChar '.' (first ++ renderRest rest) = first :: rest.map renderComp := by
  induction rest generalizing first with
  | nil => simp [renderRest, splitChar_nosep _ _ hf]
  | cons c cs ih =>
    rw [List.all_cons, Bool.and_eq_true] at hr
    rw [renderRest, splitChar_append_sep _ _ _ hf,
      ih _ (all_not_mem _ '.' (renderComp_all c hr.1) (by decide)) hr.2]
    rfl

theorem parseFieldPath_render (f : Comp) (r : List Comp) (hf : compWF f = true) (hr : r.all compWF = true) :
    parseFieldPath (renderPath f r) = .ok (partsOfComps (f :: r)) := by
  rw [parseFieldPath, renderPath, splitChar_renderRest _ (all_not_mem _ '.' (renderComp_all f hf) (by decide)) r hr]
  exact parseParts_render (f :: r) (by simp [hf, hr]) []

theorem walkParts_append (v : Value) (a b : List Part) :
    walkParts v (a ++ b) = (walkParts v a).bind fun v' => walkParts v' b := by
  induction a generalizing v with
  | nil => rfl
  | cons p ps ih =>
    simp only [List.cons_append, walkParts]
    cases accessPart v p with
    | none => rfl
    | some v' => exact ih v'

theorem wrapIndex_nth (xs : List Value) (i : Int) :
    ((wrapIndex xs.length i).bind fun n => xs[n]?) = nth xs i := by
  cases i with
  | ofNat n =>
    have h0 : (0 : Int) ≤ Int.ofNat n := Int.natCast_nonneg n
    rw [wrapIndex, nth, if_pos h0, if_pos h0]
    show (if n < xs.length then some n else none).bind _ = xs[n]?
    by_cases h : n < xs.length
    · rw [if_pos h]
      rfl
    · rw [if_neg h]
      exact (List.getElem?_eq_none (Nat.le_of_not_lt h)).symm
  | negSucc n =>
    have h0 : ¬ (0 : Int) ≤ Int.negSucc n := (Int.negSucc_not_nonneg n).mp
    have e : (xs.length : Int) + Int.negSucc n = Int.subNatNat xs.length (n + 1) := rfl
    rw [wrapIndex, nth, if_neg h0, if_neg h0, e]
    show _ = if n + 1 ≤ xs.length then xs[xs.length - (n + 1)]? else none
    by_cases h : n + 1 ≤ xs.length
    · rw [Int.subNatNat_of_le h, if_pos (Int.natCast_nonneg _), if_pos h]
      rfl
    · rw [Int.subNatNat_of_lt (Nat.lt_of_not_le h), if_neg (Int.negSucc_not_nonneg _).mp, if_neg h]
      rfl

theorem accessPart_sub (v : Value) (s : Sub) : accessPart v (partOfSub s) = subLookup v s := by
  cases s with
  | idx i =>
    cases v with
    | list xs => exact wrapIndex_nth xs i
    | _ => rfl
  | key k => cases v <;> rfl

theorem walkParts_subs (v : Value) (subs : List Sub) :
    walkParts v (subs.map partOfSub) = walkSubs v subs := by
  induction subs generalizing v with
  | nil => rfl
  | cons s ss ih => simp only [List.map_cons, walkParts, walkSubs, accessPart_sub, ih]

theorem walkParts_comp (v : Value) (c : Comp) : walkParts v (partsOfComp c) = compLookup v c := by
  cases v with
  | map kvs => simp only [partsOfComp, walkParts, accessPart, fieldOf, compLookup, walkParts_subs]
  | _ => rfl

theorem walkParts_comps (v : Value) (cs : List Comp) : walkParts v (partsOfComps cs) = walkComps v cs := by
  induction cs generalizing v with
  | nil => rfl
  | cons c rest ih => simp only [partsOfComps, walkParts_append, walkParts_comp, walkComps, ih]

theorem getNestedField_render (data : Value) (f : Comp) (r : List Comp)
    (hf : compWF f = true) (hr : r.all compWF = true) :
    getNestedField data (renderPath f r) = .ok (walkComps data (f :: r)) := by
  have hne : renderPath f r ≠ [] := by
    simp only [compWF, Bool.and_eq_true] at hf
    simp [renderPath, renderComp, isIdent_ne_nil _ hf.1]
  rw [getNestedField, if_neg hne, parseFieldPath_render f r hf hr, ← walkParts_comps]
  -- `partsOfComps (f :: r)` is a cons: the `match` takes its last arm
  rfl

end Pipe
