/-
C17 — GLOBAL WINDOW fires a group exactly when TRIGGER WHEN holds, then restarts it.

All theorems hold for every query (any SELECT aggregates, any AND/OR predicate over comparisons of
count/sum/avg/min/max calls with literals), every row sequence (NULL, absent and non-numeric cells
included), every number of groups and every number type `ν` with the operations of `Global.Num`
(no laws needed: exact `Int`/`Rat` and IEEE `Float` alike).

Two hypotheses appear:
* `KeysInj enc rows` — distinct group-key tuples of the input have distinct encodings.  For the code's
  encoder (`encGlobal`, the escaped `|`-join of `window/group_key.go`) it is a theorem, `keysInj_encGlobal`
  (C04's injectivity), for inputs whose key tuples have one arity, the number of GROUP BY columns.
* `pointSafe p seg` / `NullSafe` — at the evaluation point every aggregate the predicate mentions is
  non-NULL, or the predicate is a conjunction without `!=`.  Outside, expr-lang's `nil` (`nil != x` is
  true; `nil < x` aborts the whole predicate) departs from SQL's three-valued logic: `global_fires_iff_fails`.
-/
import SsqlVerif.Proofs.GlobalRun
import SsqlVerif.Proofs.GlobalCount
import SsqlVerif.Proofs.GroupKey
import SsqlVerif.Generated.Facts
set_option autoImplicit false

namespace C17
open Global Global.Spec

variable {α κ φ ε ν : Type} [DecidableEq κ] [DecidableEq φ] [DecidableEq ε] [Num ν]

/-- Full strength, engine semantics: after the rows `pre`, the row `r` makes its group deliver a
result exactly when the engine's predicate evaluator says TRUE on the aggregates of `segAt` — the rows
of `r`'s group since that group last delivered, `r` included, and nothing else. -/
theorem global_fires_iff_engine (enc : κ → ε) (q : Query α φ ν) (pre : List (Row κ φ ν)) (r : Row κ φ ν)
    (hK : KeysInj enc (pre ++ [r])) :
    (outAt enc q pre r).isSome = engineTrue q.pred (segAt enc q pre r) :=
  outAt_isSome enc q pre r hK

/-- The property as stated (SQL truth of the predicate on the segment), at every null-safe point. -/
theorem global_fires_iff_partial (enc : κ → ε) (q : Query α φ ν) (pre : List (Row κ φ ν)) (r : Row κ φ ν)
    (hK : KeysInj enc (pre ++ [r])) (hsafe : pointSafe q.pred (segAt enc q pre r) = true) :
    (outAt enc q pre r).isSome = predTrue q.pred (segAt enc q pre r) := by
  rw [global_fires_iff_engine enc q pre r hK, engineTrue_eq_predTrue _ _ hsafe]

omit [DecidableEq κ] in
/-- `Global.engineTrue_eq_predTrue` under the property's name -/
theorem engine_eq_sql_of_safe (p : Pred φ ν) (seg : List (Row κ φ ν)) (h : pointSafe p seg = true) :
    engineTrue p seg = predTrue p seg :=
  engineTrue_eq_predTrue p seg h

/-- the unrestricted statement, at a concrete instantiation (keys, fields, aliases `Nat`; numbers `Int`) -/
def global_fires_iff_full : Prop :=
  ∀ (q : Query Nat Nat Int) (pre : List (Row Nat Nat Int)) (r : Row Nat Nat Int),
    KeysInj (id : Nat → Nat) (pre ++ [r]) →
    (outAt id q pre r).isSome = predTrue q.pred (segAt id q pre r)

/-- `SELECT COUNT( * ) … TRIGGER WHEN MIN(f0) != 3`: a row whose `f0` is NULL -/
def nullNeQuery : Query Nat Nat Int :=
  { outputs := [(0, ⟨.count, none⟩)], pred := .cmp ⟨.min, some 0⟩ .ne 3 }

def nullRow : Row Nat Nat Int := { key := 0, ts := 1, cells := [(0, .null)] }

/-- refutation witness: the engine fires (`nil != 3` is true in expr-lang) although `MIN(f0) != 3`
is UNKNOWN on a segment without a numeric `f0` -/
theorem global_fires_iff_fails : ¬ global_fires_iff_full := by
  intro h
  exact absurd (h nullNeQuery [] nullRow fun a ha b hb _ =>
    (List.mem_singleton.mp ha).trans (List.mem_singleton.mp hb).symm) (by decide)

/-- second witness class: `MAX(f0) > 5 OR COUNT( * ) >= 1` — SQL says TRUE, the engine aborts on
`nil > 5` and does not fire -/
def nullOrQuery : Query Nat Nat Int :=
  { outputs := [(0, ⟨.count, none⟩)],
    pred := .or (.cmp ⟨.max, some 0⟩ .gt 5) (.cmp ⟨.count, none⟩ .ge 1) }

example : (outAt id nullOrQuery [] nullRow).isSome = false ∧
    predTrue nullOrQuery.pred (segAt id nullOrQuery [] nullRow) = true := by decide +kernel

/-- Full strength: whatever is delivered at `r` is the group columns of `r` and, for every SELECT
output, the aggregate of exactly `segAt` (plus the bounds: first and last row time of the segment). -/
theorem global_result_exact (enc : κ → ε) (q : Query α φ ν) (pre : List (Row κ φ ν)) (r : Row κ φ ν)
    (hK : KeysInj enc (pre ++ [r])) (res : Result κ ν) (h : outAt enc q pre r = some res) :
    res = expected q (segAt enc q pre r) r := by
  rw [outAt_eq enc q pre r hK] at h
  revert h
  cases engineTrue q.pred (segAt enc q pre r)
  · nofun
  · exact fun h => (Option.some.inj h).symm

omit [DecidableEq κ] in
/-- After a delivery at `r` the group is gone from the state. -/
theorem global_restart_state (enc : κ → ε) (q : Query α φ ν) (pre : List (Row κ φ ν)) (r : Row κ φ ν)
    (hfire : (outAt enc q pre r).isSome = true) :
    stateAfter enc q (pre ++ [r]) (enc r.key) = none :=
  (congrFun (stateFrom_append enc q _ pre [r]) _).trans (step_fired enc q _ r hfire)

/-- After a delivery at `r` the next row `r'` of that group starts from empty: its segment is `[r']` alone. -/
theorem global_restart_empty (enc : κ → ε) (q : Query α φ ν) (pre : List (Row κ φ ν)) (r r' : Row κ φ ν)
    (hK : KeysInj enc (pre ++ [r] ++ [r'])) (hfire : (outAt enc q pre r).isSome = true)
    (hkey : r'.key = r.key) :
    segAt enc q (pre ++ [r]) r' = [r'] ∧
    (outAt enc q (pre ++ [r]) r').isSome = engineTrue q.pred [r'] ∧
    ∀ res, outAt enc q (pre ++ [r]) r' = some res → res = expected q [r'] r' := by
  have hseg : segAt enc q (pre ++ [r]) r' = [r'] := by
    rw [segAt, histOf_run_snoc]
    dsimp only [openSeg]
    rw [hkey, if_pos rfl, hfire, if_pos rfl]
    rfl
  refine ⟨hseg, ?_, ?_⟩
  · rw [global_fires_iff_engine enc q _ r' hK, hseg]
  · intro res h
    rw [global_result_exact enc q _ r' hK res h, hseg]

def rw' (k : Nat) : Row Nat Nat Int := { key := k, ts := 0, cells := [] }

/-- Under distinct encodings: the deliveries at the rows of group `k` in a run over `rows` are exactly
the deliveries of a run over the rows of group `k` alone — rows of other groups neither trigger nor
contribute. -/
theorem global_group_isolation_partial (enc : κ → ε) (q : Query α φ ν) (rows : List (Row κ φ ν))
    (hK : KeysInj enc rows) (k : κ) (hk : k ∈ rows.map (·.key)) :
    proj k rows (run enc q rows) = run enc q (rows.filter fun r => r.key = k) :=
  proj_runFrom enc q _ hK k hk rows (fun _ hr => List.mem_map_of_mem hr) _ _ rfl

omit [DecidableEq κ] [DecidableEq φ] [DecidableEq ε] [Num ν] in
/-- C04's injectivity of the escaped `|`-join discharges the hypothesis "encoded keys distinct":
("x|y","z") and ("x","y|z"), NULL and "" … all have different encodings. -/
theorem keysInj_encGlobal (n : Nat) (rows : List (Row (List KeyPart) φ ν))
    (harity : ∀ r ∈ rows, r.key.length = n) : KeysInj encGlobal rows := by
  intro k₁ h₁ k₂ h₂ he
  obtain ⟨r₁, hr₁, rfl⟩ := List.mem_map.mp h₁
  obtain ⟨r₂, hr₂, rfl⟩ := List.mem_map.mp h₂
  exact GroupKey.encWindow_injective _ _ _ (by rw [harity r₁ hr₁, harity r₂ hr₂]) he

/-- Isolation for the engine's encoder, no hypothesis on the key values. -/
theorem global_group_isolation (q : Query α φ ν) (n : Nat) (rows : List (Row (List KeyPart) φ ν))
    (harity : ∀ r ∈ rows, r.key.length = n) (k : List KeyPart) (hk : k ∈ rows.map (·.key)) :
    proj k rows (run encGlobal q rows) = run encGlobal q (rows.filter fun r => r.key = k) :=
  global_group_isolation_partial encGlobal q rows (keysInj_encGlobal n rows harity) k hk

/-- Firing and result for the engine's encoder, no hypothesis on the key values. -/
theorem global_fires_and_result_global (q : Query α φ ν) (n : Nat) (pre : List (Row (List KeyPart) φ ν))
    (r : Row (List KeyPart) φ ν) (harity : ∀ x ∈ pre ++ [r], x.key.length = n) :
    (outAt encGlobal q pre r).isSome = engineTrue q.pred (segAt encGlobal q pre r) ∧
    (pointSafe q.pred (segAt encGlobal q pre r) = true →
      (outAt encGlobal q pre r).isSome = predTrue q.pred (segAt encGlobal q pre r)) ∧
    ∀ res, outAt encGlobal q pre r = some res → res = expected q (segAt encGlobal q pre r) r :=
  have hK := keysInj_encGlobal n (pre ++ [r]) harity
  ⟨global_fires_iff_engine encGlobal q pre r hK,
   fun hs => global_fires_iff_partial encGlobal q pre r hK hs,
   fun res h => global_result_exact encGlobal q pre r hK res h⟩

def countGe2 : Query Nat Nat Int :=
  { outputs := [(0, ⟨.count, none⟩)], pred := .cmp ⟨.count, none⟩ .ge 2 }

/-- the tuples that shared a group before the C04 repair of the encoder -/
def collideRows : List (Row (List KeyPart) Nat Int) :=
  [ { key := [some ['x', '|', 'y'], some ['z']], ts := 1, cells := [] },
    { key := [some ['x'], some ['y', '|', 'z']], ts := 2, cells := [] },
    { key := [some ['x'], some ['y', '|', 'z']], ts := 3, cells := [] } ]

-- the second row no longer fires the first row's group; the third fires its own
example : (run encGlobal countGe2 collideRows).map (·.isSome) = [false, false, true] := by decide +kernel
example : encGlobal [some ['x', '|', 'y'], some ['z']] ≠ encGlobal [some ['x'], some ['y', '|', 'z']] := by decide +kernel
example : encGlobal [none] ≠ encGlobal [some []] := by decide +kernel

/-- why `KeysInj` is needed: with the constant encoder the second row fires a group its own rows would not -/
example : proj 1 [rw' 0, rw' 1] (run (fun _ : Nat => 0) countGe2 [rw' 0, rw' 1]) ≠
    run (fun _ : Nat => 0) countGe2 ([rw' 0, rw' 1].filter fun r => r.key = 1) := by decide +kernel

/-- A predicate aggregate is bound to a SELECT output only if that output computes the same call. -/
theorem trigger_binding_same_call (outs : List (α × AggCall φ)) (c : AggCall φ) (j : Nat)
    (h : findOutputSpec outs c = some j) : ∃ o, outs[j]? = some o ∧ o.2 = c :=
  findOutputSpec_some outs c j h

/-- Every placeholder of the rewritten predicate — read from a SELECT output's accumulator when bound,
from its own accumulator otherwise — holds the aggregate the call would compute itself over `segAt`. -/
theorem trigger_binding_sound (enc : κ → ε) (q : Query α φ ν) (pre : List (Row κ φ ν)) (r : Row κ φ ν)
    (hK : KeysInj enc (pre ++ [r])) :
    trigVals q (updated q (stateAfter enc q pre (enc r.key)) r) =
      q.pred.leaves.map fun c => aggOf c (segAt enc q pre r) := by
  rw [stateAfter_eq_groupOf enc q pre r hK, updated_groupOf, trigVals_mkGroup]
  rfl

/-- The oracle the driver runs on the implementation's traces accepts the model's trace, at null-safe inputs. -/
theorem global_trace_partial (eqv : ν → ν → Bool) (hrefl : ∀ x, eqv x x = true) (bounds : Bool)
    (enc : κ → ε) (q : Query α φ ν) (rows : List (Row κ φ ν))
    (hK : KeysInj enc rows) (hsafe : NullSafe enc q rows = true) :
    holds eqv bounds q rows (run enc q rows) = true := by
  have := checkFrom_runFrom eqv bounds enc q _ hK hrefl rows (fun _ hr => List.mem_map_of_mem hr) 0
    State.empty [] (fun _ _ => rfl) hsafe
  exact Bool.and_eq_true_iff.mpr ⟨decide_eq_true (runFrom_length enc q _ rows).symm, congrArg Option.isNone this⟩

/-- The trace specification leaves no slack: two delivery sequences accepted for the same query and
rows (values compared by equality, bounds included) are equal. -/
theorem spec_determines_trace [DecidableEq ν] (q : Query α φ ν) (rows : List (Row κ φ ν))
    (outs₁ outs₂ : List (Option (Result κ ν)))
    (h₁ : holds (fun x y => decide (x = y)) true q rows outs₁ = true)
    (h₂ : holds (fun x y => decide (x = y)) true q rows outs₂ = true) : outs₁ = outs₂ := by
  simp only [holds, Bool.and_eq_true, decide_eq_true_eq, Option.isNone_iff_eq_none] at h₁ h₂
  exact checkFrom_unique q rows 0 [] outs₁ outs₂ h₁.1.symm h₂.1.symm h₁.2 h₂.2

/-- `Global.result_accCells` under the property's name -/
theorem running_aggregate_eq (fn : AggFn) (cs : List (Cell ν)) :
    Acc.result fn (accCells fn cs) = aggList fn cs :=
  result_accCells fn cs

/-- `TRIGGER WHEN COUNT(*) >= n` (n ≥ 1), any SELECT aggregates, any interleaving of groups: the rows of `r`'s group
since its last delivery are never more than n, `r` delivers exactly when they are n, over exactly these n rows.  So
each group delivers the consecutive chunks of n of its rows — the counting window of C09, the shape the
global-window variants of the C03 / C04 correspondence cases compare with. -/
theorem count_trigger_is_counting_window (enc : κ → ε) (q : Query α φ Int) (n : Nat) (hn : 0 < n)
    (h : CountGe q n) (pre : List (Row κ φ Int)) (r : Row κ φ Int) (hK : KeysInj enc (pre ++ [r])) :
    (segAt enc q pre r).length ≤ n ∧
    ((outAt enc q pre r).isSome = true ↔ (segAt enc q pre r).length = n) ∧
    (∀ res, outAt enc q pre r = some res → res = expected q (segAt enc q pre r) r ∧ (segAt enc q pre r).length = n) := by
  have hle : (segAt enc q pre r).length ≤ n := by
    rw [segAt, List.length_append]
    exact openSeg_lt_of_countGe enc q n hn h pre hK.prefix r.key
  have hfire : (outAt enc q pre r).isSome = true ↔ (segAt enc q pre r).length = n := by
    rw [outAt_isSome enc q pre r hK, engineTrue_countGe q n h, decide_eq_true_eq]
    exact ⟨Nat.le_antisymm hle, Nat.le_of_eq ∘ Eq.symm⟩
  exact ⟨hle, hfire, fun res hres =>
    ⟨global_result_exact enc q pre r hK res hres, hfire.mp (hres ▸ rfl)⟩⟩

/-- `SELECT COUNT( * ), SUM(f0) … TRIGGER WHEN COUNT( * ) >= 2` -/
def qCount2 : Query Nat Nat Int :=
  { outputs := [(0, ⟨.count, none⟩), (1, ⟨.sum, some 0⟩)], pred := .cmp countStar .ge 2 }

def crow (k : Nat) (t : Int) (v : Int) : Row Nat Nat Int := { key := k, ts := t, cells := [(0, .num v)] }

example : CountGe qCount2 2 := rfl
-- two interleaved groups: each delivers at its 2nd and 4th row, over exactly the two rows since its last delivery
example : (run id qCount2 [crow 0 1 1, crow 1 2 10, crow 1 3 20, crow 0 4 2, crow 0 5 3, crow 0 6 4]).map (·.map (·.vals)) =
    [none, none, some [some 2, some 30], some [some 2, some 3], none, some [some 2, some 7]] := by decide +kernel

def q1 : Query Nat Nat Int :=
  { outputs := [(0, ⟨.count, none⟩), (1, ⟨.sum, some 0⟩)],
    pred := .and (.cmp ⟨.count, none⟩ .ge 2) (.cmp ⟨.max, some 0⟩ .gt 5) }

def rw (k : Nat) (t : Int) (v : Int) : Row Nat Nat Int := { key := k, ts := t, cells := [(0, .num v)] }

-- group 0 fires at 9 (count 3, sum 12) and restarts; the interleaved group 1 never fires
example : (run id q1 [rw 0 1 1, rw 1 2 100, rw 0 3 2, rw 0 4 9, rw 0 5 7]).map (·.map (·.vals)) =
    [none, none, none, some [some 3, some 12], none] := by decide +kernel
example : segAt id q1 [rw 0 1 1, rw 1 2 100, rw 0 3 2] (rw 0 4 9) = [rw 0 1 1, rw 0 3 2, rw 0 4 9] := by decide +kernel
example : segAt id q1 [rw 0 1 1, rw 1 2 100, rw 0 3 2, rw 0 4 9] (rw 0 5 7) = [rw 0 5 7] := by decide +kernel
example : NullSafe id q1 [rw 0 1 1, rw 1 2 100, rw 0 3 2, rw 0 4 9, rw 0 5 7] = true := by decide +kernel
example : pointSafe q1.pred [nullRow] = true ∧ allNonNull q1.pred [nullRow] = false := by decide +kernel
example : findOutputSpec q1.outputs ⟨.count, none⟩ = some 0 ∧ findOutputSpec q1.outputs ⟨.max, some 0⟩ = none := by
  decide +kernel
example : aggList (ν := Int) .min [.num 4, .null, .junk, .num (-2), .missing] = some (-2) ∧
    aggList (ν := Int) .count [.num 4, .null, .junk, .num (-2), .missing] = some 3 ∧
    aggList (ν := Int) .sum [.null, .junk] = none := by decide +kernel
-- the theorems instantiate at exact rational arithmetic
example (q : Query Nat Nat Rat) (pre : List (Row Nat Nat Rat)) (r : Row Nat Nat Rat)
    (hK : KeysInj (id : Nat → Nat) (pre ++ [r])) :=
  global_fires_iff_engine id q pre r hK

end C17

/-! tie to the source (regenerated on every run from the repository by factsgen): the literals of
`getKeyAndValues` (no-key group name; `(` marks a computed key; `%v`), the shared key-part separator / NULL token,
the placeholder format of
`buildTrigger`, `*`/empty-argument handling, and the aggregate-call regular expression -/
theorem C17.facts_global_window :
    Facts.window_GlobalWindow_getKeyAndValues_strlits = ["__global__", "(", "%v"] ∧
    Facts.window_groupKeyPartSep = "|" ∧ Facts.window_groupKeyNullPart = "\\N" ∧
    Facts.window_GlobalWindow_buildTrigger_strlits.head? = some "__trig_%d__" ∧
    Facts.window_GlobalWindow_findAggCalls_strlits = ["*", "", "*"] ∧
    Facts.window_normalizeField_strlits = ["", "*"] ∧
    Facts.window_aggCallRe = "(?i)\\b([a-z_]+)\\s*\\(\\s*([^)]*?)\\s*\\)" :=
  ⟨rfl, rfl, rfl, rfl, rfl, rfl, rfl⟩
