/-
C16 — Stream-table JOIN enriches each row from the table state at processing time.
`F` is the type of float64 values (-0 = 0, no NaN), `nf.ofInt` Go's integer→float64 conversion,
`nf.fmt` = `strconv.FormatFloat(·,'f',-1,64)`; where a theorem needs the formatting to be
injective this is the explicit hypothesis `hinj` (trusted Go runtime).
A history is a list of critical sections (upsert / delete / processing of one emitted row), so the
theorems range over every interleaving of table updates with row processing at the granularity
of the table's RWMutex.
-/
import SsqlVerif.Proofs.Join
import SsqlVerif.Generated.Facts
set_option autoImplicit false

namespace C16
open Join JoinSpec

/-- Equal keys have the same encoded key — numbers by value: `1`, `1.0`, `int64 1` (all `ofInt 1`
after conversion) — without any assumption on the formatting. -/
theorem encodeKey_respects_keyEq {F : Type} [DecidableEq F] (nf : NumFmt F)
    (k k' : List (KVal F)) (h : keyEq nf k k' = true) : encodeKey nf k = encodeKey nf k' :=
  encodeKey_of_keyEq nf k k' h

/-- Keys of the same arity with the same encoded key are equal, component by component — for all
strings (separator bytes, type-tag look-alikes such as `"\x1fs:x"` included), numbers, bools, NULL. -/
theorem encodeKey_reflects_keyEq {F : Type} [DecidableEq F] (nf : NumFmt F)
    (hinj : ∀ x y : F, nf.fmt x = nf.fmt y → x = y)
    (k k' : List (KVal F)) (hl : k.length = k'.length) (h : encodeKey nf k = encodeKey nf k') :
    keyEq nf k k' = true :=
  (encodeKey_eq_iff nf hinj k k' hl).1 h

/-- Numeric normalisation: an integer and the float64 of the same value have the same key text;
a number never has the key text of a string, a bool or NULL (`1` vs `"1"`). -/
theorem numeric_normalisation {F : Type} (nf : NumFmt F) (i : Int) (s : GroupKey.Str) (b : Bool) :
    encodeOne nf (.int i) = encodeOne nf (.flt (nf.ofInt i)) ∧
    encodeOne nf (.int i) ≠ encodeOne nf (.str s) ∧ encodeOne nf (.int i) ≠ encodeOne nf (.bool b) ∧
    encodeOne nf (.int i) ≠ encodeOne nf .null ∧ encodeOne nf (.str s) ≠ encodeOne nf .null := by
  refine ⟨rfl, ?_, ?_, ?_, ?_⟩ <;> exact fun h => absurd (List.cons.inj h).1 (by decide)

/-- Composite keys of the same arity match iff every component matches. -/
theorem composite_all_components {F : Type} [DecidableEq F] (nf : NumFmt F)
    (hinj : ∀ x y : F, nf.fmt x = nf.fmt y → x = y)
    (k k' : List (KVal F)) (hl : k.length = k'.length) :
    encodeKey nf k = encodeKey nf k' ↔ ∀ i (h : i < k.length), compEq nf k[i] (k'[i]'(hl ▸ h)) = true := by
  rw [encodeKey_eq_iff nf hinj k k' hl, keyEq_iff]
  exact ⟨fun H i h => H.2 i h _, fun H => ⟨hl, fun i h _ => H i h⟩⟩

/-- The index refines the abstract map, for every history: whatever sequence of upserts, deletes
and processed rows over keys of arity `n`, every processed row gets exactly the output the
specification gives on the partial map "key (up to key equality) ↦ row". -/
theorem table_refines_map {F ρ : Type} [DecidableEq F] (nf : NumFmt F)
    (hinj : ∀ x y : F, nf.fmt x = nf.fmt y → x = y) (n : Nat) (jt : JoinType)
    (ops : List (Op (List (KVal F)) ρ)) (harity : ∀ op ∈ ops, (opKey op).length = n) :
    run (encodeKey nf) jt [] ops = outputs (keyEq nf) jt JoinSpec.empty ops :=
  run_refines (encodeKey nf) (keyEq nf) (fun k => k.length = n)
    (fun k k' hk hk' => encodeKey_eq_iff nf hinj k k' (hk.trans hk'.symm)) jt ops [] _
    (represents_empty _ _) harity

/-- Rows processed before an update are unaffected by it, rows after it run on the updated table:
the outputs of a prefix of the history do not depend on what follows. -/
theorem earlier_rows_unaffected {κ σ ρ : Type} [DecidableEq σ] (enc : κ → σ) (jt : JoinType)
    (before after : List (Op κ ρ)) :
    run enc jt [] (before ++ after)
      = run enc jt [] before ++ run enc jt (tableAfter enc [] before) after :=
  run_append enc jt before after []

/-- Read your writes: a row processed after `Upsert(row)` returned, with an equal key, is enriched
with exactly that row — whatever happened before. -/
theorem read_your_writes_upsert {F ρ : Type} [DecidableEq F] (nf : NumFmt F) (jt : JoinType)
    (before : List (Op (List (KVal F)) ρ)) (k q : List (KVal F)) (r : ρ) (h : keyEq nf k q = true) :
    run (encodeKey nf) jt [] (before ++ [.upsert k r, .emit q])
      = run (encodeKey nf) jt [] before ++ [.kept (some r)] := by
  rw [run_append]
  simp only [run, lookup_upsert, encodeKey_of_keyEq nf k q h, if_true, enrich]

/-- A row processed after `Delete(key)` returned, with an equal key, finds nothing: INNER drops it,
LEFT keeps it with NULL table columns. -/
theorem read_your_writes_delete {F ρ : Type} [DecidableEq F] (nf : NumFmt F) (jt : JoinType)
    (before : List (Op (List (KVal F)) ρ)) (k q : List (KVal F)) (h : keyEq nf k q = true) :
    run (encodeKey nf) jt [] (before ++ [.delete k, .emit q])
      = run (encodeKey nf) jt [] before ++ [if jt = .left then .kept none else .dropped] := by
  rw [run_append]
  simp only [run, lookup_erase, encodeKey_of_keyEq nf k q h, if_true]
  cases jt <;> rfl

/-- INNER drops / LEFT keeps: in every history an INNER JOIN never outputs a row without table
row, a LEFT JOIN never drops a row. -/
theorem inner_left_semantics {κ σ ρ : Type} [DecidableEq σ] (enc : κ → σ) :
    ∀ (ops : List (Op κ ρ)) (t : Index σ ρ),
      (∀ o ∈ run enc .inner t ops, o ≠ .kept none) ∧ (∀ o ∈ run enc .left t ops, o ≠ .dropped) := by
  intro ops
  induction ops with
  | nil => exact fun _ => ⟨fun _ h => (nomatch h), fun _ h => (nomatch h)⟩
  | cons op ops ih =>
    intro t
    cases op with
    | upsert k r | delete k => exact ih _
    | emit k =>
      obtain ⟨h1, h2⟩ := ih t
      have hi : enrich .inner (lookup t (enc k)) ≠ .kept none := by
        cases lookup t (enc k) <;> simp [enrich]
      have hl : enrich .left (lookup t (enc k)) ≠ .dropped := by
        cases lookup t (enc k) <;> simp [enrich]
      exact ⟨List.forall_mem_cons.2 ⟨hi, h1⟩, List.forall_mem_cons.2 ⟨hl, h2⟩⟩

/-! non-vacuity, with a concrete formatter (`F := Int`, decimal text) -/
def nfInt : NumFmt Int := ⟨id, GroupKey.intStr⟩

-- the colliding pair of the unrepaired encodeKey is separated; numbers normalise; "1" is not 1
example : encodeKey nfInt [.str ['x', Char.ofNat 0x1f, 's', ':', 'y'], .str ['z']]
        ≠ encodeKey nfInt [.str ['x'], .str ['y', Char.ofNat 0x1f, 's', ':', 'z']] := by decide +kernel
example : encodeKey nfInt [.int 1, .str ['a']] = encodeKey nfInt [.flt 1, .str ['a']] := by decide +kernel
example : encodeKey nfInt [.int 1] ≠ encodeKey nfInt [.str ['1']] := by decide +kernel
example : encodeKey nfInt [.int 1] = "n:1".toList ∧ encodeKey nfInt [.null] = "<nil>".toList := by decide +kernel
example : keyEq nfInt [.int 1, .null] [.flt 1, .null] = true ∧ keyEq nfInt [.int 1] [.int 1, .null] = false := by decide +kernel
-- a history: upsert, matching row, delete, same row again (INNER, then LEFT)
example : run (encodeKey nfInt) .inner ([] : Index _ Nat)
    [.upsert [.int 7] 100, .emit [.flt 7], .emit [.int 8], .delete [.flt 7], .emit [.int 7]]
    = [.kept (some 100), .dropped, .dropped] := by decide +kernel
example : run (encodeKey nfInt) .left ([] : Index _ Nat)
    [.upsert [.int 7] 100, .emit [.flt 7], .emit [.int 8], .delete [.flt 7], .emit [.int 7]]
    = [.kept (some 100), .kept none, .kept none] := by decide +kernel

end C16

/-! tie to the source: type tags, NULL text, separator and escape bytes of the join key. `"f"` is the
format byte of `strconv.FormatFloat(f, 'f', -1, 64)`; `"%T:%v"` is `encodeOne`'s fallback for Go
types that `KVal` does not have. -/
theorem C16.facts_join_key :
    Facts.stream_encodeOne_strlits = ["<nil>", "n:", "f", "s:", "b:", "%T:%v"] ∧
    Facts.stream_joinKeySep = "\x1f" ∧
    Facts.stream_escapeJoinKeyPart_strlits = ["\\", "\\", "\\"] :=
  ⟨rfl, rfl, rfl⟩
