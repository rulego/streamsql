/-
C02 — Watermark discipline: no early firing, no on-time loss, bounded late updates.
Quantified over every size / slide / timeout, MAXOUTOFORDERNESS and every op sequence (arrival orders, bursts with
undelivered watermarks, far-future and timestamp-less rows, all interleavings of Add with ticker and trigger passes).
Tumbling and session theorems hold for every ALLOWEDLATENESS ≥ 0; for sliding windows no-early-fire is proved for the
model without allowance (`Sliding.run`), the late-update theorems for the model with it (`SlidingLate`).
"Inside the allowance" is read per window: the current watermark is below window_end + ALLOWEDLATENESS.
-/
import SsqlVerif.Proofs.WatermarkBound
import SsqlVerif.Proofs.WatermarkSources
import SsqlVerif.Proofs.TumblingHist
import SsqlVerif.Proofs.TumblingLate
import SsqlVerif.Proofs.SlidingHist
import SsqlVerif.Proofs.SlidingLate
import SsqlVerif.Proofs.SessionLate
import SsqlVerif.Proofs.SlidingLateRun
import SsqlVerif.Generated.Facts
set_option autoImplicit false

namespace C02
open Tumbling (leOpt)

section tumbling
open Tumbling Wm

/-- op sequences of the quantifier: timestamps are post-epoch (Go's alignment truncates) -/
def OpsOk (ops : List Op) : Prop := ∀ op ∈ ops, OpOk op
/-- no tick with the idle timeout elapsed -/
def NoIdleAll (ops : List Op) : Prop := ∀ op ∈ ops, NoIdle op

/-- **No early firing, every history** (idle ticks and far-future rows included).  Every delivered result
(first firing or late update) of an interval ending at `e.stop` is backed by an event the history ingested
*and the far-future guard accepted* with timestamp at least `e.stop + MAXOUTOFORDERNESS`, or by a tick at
which the idle timeout had elapsed, at a wall-clock reading of at least `e.stop + MAXOUTOFORDERNESS`.
It holds for every op list, hence for every prefix of a history (`tumbling_no_early_fire_prefix`). -/
theorem tumbling_no_early_fire_full (size ooo lateness : Int) (hs : 0 < size) (ops : List Op) (hok : OpsOk ops) :
    ∀ e ∈ (run (init size ooo lateness) ops).2,
      (∃ m ∈ accepted ooo Facts.window_maxFutureSlack ops, e.stop + ooo ≤ m) ∨
      (∃ n ∈ idleNows ops, e.stop + ooo ≤ n) := by
  intro e he
  obtain ⟨_, hf⟩ := hist_reach size ooo lateness hs ops hok
  exact (run_backed (init size ooo lateness) ops _ _ [] [] (backed_init ooo)).source (no_early _ _ hf e he)

/-- **No early firing.** Without idle ticks, every delivered result (first firing or late update)
of an interval ending at `e.stop` is preceded by an ingested event — one that passed the
far-future guard — with timestamp at least `e.stop + MAXOUTOFORDERNESS`. -/
theorem tumbling_no_early_fire (size ooo lateness : Int) (hs : 0 < size) (ops : List Op)
    (hok : OpsOk ops) (hni : NoIdleAll ops) :
    ∀ e ∈ (run (init size ooo lateness) ops).2, ∃ m ∈ ingested ops, e.stop + ooo ≤ m := by
  intro e he
  rcases tumbling_no_early_fire_full size ooo lateness hs ops hok e he with ⟨m, hm, hle⟩ | ⟨n, hn, _⟩
  · exact ⟨m, accepted_sub_ingested _ _ ops m hm, hle⟩
  · rw [idleNows_of_noIdle ops hni] at hn
    cases hn

theorem tumbling_no_early_fire_prefix (size ooo lateness : Int) (hs : 0 < size) (pre post : List Op)
    (hok : OpsOk (pre ++ post)) :
    ∀ e ∈ (run (init size ooo lateness) pre).2,
      (∃ m ∈ accepted ooo Facts.window_maxFutureSlack pre, e.stop + ooo ≤ m) ∨
      (∃ n ∈ idleNows pre, e.stop + ooo ≤ n) :=
  tumbling_no_early_fire_full size ooo lateness hs pre (fun op h => hok op (List.mem_append_left _ h))

/-- a refused (far-future) row is not a source, an accepted one is; an idle tick is a source -/
example : accepted 5 Facts.window_maxFutureSlack [.add ⟨1, 2000000000000000⟩ 1000, .add ⟨2, 1030⟩ 1000, .tick true 77,
    .tick false 88] = [1030]
    ∧ idleNows [.add ⟨1, 2000000000000000⟩ 1000, .add ⟨2, 1030⟩ 1000, .tick true 77, .tick false 88] = [77] := by
  decide +kernel

/-- **Discarded only if late.** -/
theorem tumbling_drop_only_if_late (s : TW) (r : Row) (now : Int) (h : fate s r now = .drop) :
    lateNow s r now = true := fate_drop s r now h

/-- A discarded row changes nothing but the watermark bookkeeping: no result, buffer,
triggered windows and (initialised) current slot as before. -/
theorem tumbling_dropped_row_inert (s : TW) (r : Row) (now : Int) (c : Int) (hc : s.cur = some c)
    (h : fate s r now = .drop) :
    (stepAdd s r now).2 = [] ∧ (stepAdd s r now).1.data = s.data ∧ (stepAdd s r now).1.fired = s.fired ∧
    (stepAdd s r now).1.cur = some c := by
  have hl := fate_drop s r now h
  refine ⟨by simp [stepAdd, addEmit, h], by simp [stepAdd, addData, h], by simp [stepAdd, addFired, h], ?_⟩
  show some (curAfterAdd s r now) = some c
  rw [late_no_reseat s r now hl]
  simp [curInit, hc]

/-- **Late update.** In every reachable state, a late row that falls into a triggered window still
inside its allowance is answered by exactly one re-delivery of the same interval whose contents are
what was last delivered for that interval followed by that row. -/
theorem tumbling_late_update_contents (size ooo lateness : Int) (hs : 0 < size) (ops : List Op) (hok : OpsOk ops)
    (r : Row) (now : Int) (f : Fired)
    (h : fate (run (init size ooo lateness) ops).1 r now = .lateUpdate f) :
    (stepAdd (run (init size ooo lateness) ops).1 r now).2
        = [{ kind := .late, start := f.start, stop := f.start + size, rows := f.snap ++ [r] }] ∧
    lastFor f.start (run (init size ooo lateness) ops).2 = some f.snap ∧
    (f.start ≤ r.ts ∧ r.ts < f.start + size) ∧
    stillOpen (wmAfter (run (init size ooo lateness) ops).1 r now).cur f = true := by
  obtain ⟨hg, hf⟩ := hist_reach size ooo lateness hs ops hok
  obtain ⟨h1, h2, h3, _, h5⟩ := late_update_step _ _ r now hg hf f h
  rw [(run_frame _ ops).1] at h1 h3
  refine ⟨h1, h2, ?_, h5⟩
  simp only [inSlot, init, Bool.and_eq_true, decide_eq_true_eq] at h3
  exact ⟨h3.1, of_decide_eq_true h3.2⟩

theorem tumbling_late_update_only_if_allowed (s : TW) (r : Row) (now : Int) (f : Fired)
    (h : fate s r now = .lateUpdate f) : lateNow s r now = true ∧ 0 < s.lateness :=
  ⟨(fate_lateUpdate s r now f h).1, (fate_lateUpdate s r now f h).2.1⟩

end tumbling

section watermark
open Wm

/-- **Far-future timestamps never touch the watermark.** -/
theorem future_never_moves_watermark (w : Wm.Wm) (ts now : Int) (h : now + w.maxOOO + w.slack < ts) :
    updateEventTime w ts now = w :=
  future_inert w ts now (by simp [tooFar, h])

/-- **Monotone.** Neither `UpdateEventTime` nor the ticker lowers the watermark: whatever was at or below it stays so. -/
theorem watermark_monotone (w : Wm.Wm) (x ts now : Int) (idle : Bool) (h : leOpt x w.cur) :
    leOpt x (updateEventTime w ts now).cur ∧ leOpt x (tick w idle now).cur :=
  ⟨(Wm.Move.update _ _ _).mono h, (Wm.Move.tick _ _ _).mono h⟩

/-- **Retried delivery.** After one `send` with room in the channel the current watermark is recorded as sent, unless
it was not above the last sent value. -/
theorem send_retry (w : Wm.Wm) (c : Int) (hc : w.cur = some c) (hroom : w.chan.length < w.cap) :
    (send w).lastSent = some c ∨ (w.lastSent = (send w).lastSent ∧ after c w.lastSent = false) :=
  send_delivers w c hc hroom

theorem facts_watermark : Facts.window_maxFutureSlack = 86400000000000 := by decide

end watermark

section sliding
open Sliding

/-- **No early firing (sliding, no allowance).** Every delivered interval ends at or below the current watermark. -/
theorem sliding_no_early_fire (size slide ooo : Int) (hs : 0 < size) (hl : 0 < slide) (ops : List Op)
    (hok : ∀ op ∈ ops, OpOk op) :
    ∀ e ∈ (run (init size slide ooo) ops).2, leOpt e.stop (run (init size slide ooo) ops).1.wm.cur := by
  intro e he
  obtain ⟨hg, hh⟩ := goodH_reach size slide ooo hs hl ops hok
  obtain ⟨hadv, c, hc, h1⟩ := hh.hpassed e he
  obtain ⟨y, hy, hcy⟩ := hg.hpassed hadv c hc
  -- `e.start + slide ≤ c`, so `e.start + size ≤ c - slide + size ≤ watermark` by `Good.hpassed`
  rw [(hh.hshape e he).2.1]
  exact ⟨y, hy, Int.le_trans (Int.add_le_add_right (Int.le_sub_right_of_add_le h1) _) hcy⟩

/-- `sliding_no_early_fire` with the watermark traced back to its sources, for every history. -/
theorem sliding_no_early_fire_full (size slide ooo : Int) (hs : 0 < size) (hl : 0 < slide) (ops : List Op)
    (hok : ∀ op ∈ ops, OpOk op) :
    ∀ e ∈ (run (init size slide ooo) ops).2,
      (∃ m ∈ accepted ooo Facts.window_maxFutureSlack ops, e.stop + ooo ≤ m) ∨
      (∃ n ∈ idleNows ops, e.stop + ooo ≤ n) := by
  intro e he
  exact (run_backed (init size slide ooo) ops _ _ [] [] (Wm.backed_init ooo)).source
    (sliding_no_early_fire size slide ooo hs hl ops hok e he)

/-- **Sliding late update (ALLOWEDLATENESS > 0).** Every result an Add produces is the re-delivery of
an open triggered window that contains the (late) row — same interval, the window's previous
contents first, then rows of the interval not yet in them, the late row included. -/
theorem sliding_late_update_contents (s : SlidingLate.SWL) (r : Tumbling.Row) (now : Int) :
    ∀ e ∈ (SlidingLate.stepAdd s r now none).2, ∃ f ∈ s.fired,
      e.kind = .late ∧ e.start = f.start ∧ e.stop = f.start + s.base.size ∧
      Tumbling.inSlot s.base.size f.start r = true ∧
      Tumbling.stillOpen (Sliding.wmAfter s.base r now).cur f = true ∧
      Sliding.lateNow s.base r now = true ∧ 0 < s.lateness ∧
      (∃ extra, e.rows = f.snap ++ extra ∧
        (∀ x ∈ extra, Tumbling.inSlot s.base.size f.start x = true ∧ x ∉ f.snap) ∧ (r ∈ f.snap ∨ r ∈ extra)) :=
  SlidingLate.late_emissions s r now none

/-- **Sliding late update, completeness.** Every open triggered window that contains a late row is re-delivered
by the row's Add. -/
theorem sliding_every_open_window_redelivered (s : SlidingLate.SWL) (r : Tumbling.Row) (now : Int)
    (hl : Sliding.lateNow s.base r now = true) (hlat : 0 < s.lateness)
    (f : Tumbling.Fired) (hf : f ∈ s.fired) (hin : Tumbling.inSlot s.base.size f.start r = true)
    (hop : Tumbling.stillOpen (Sliding.wmAfter s.base r now).cur f = true) :
    ∃ e ∈ (SlidingLate.stepAdd s r now none).2, e.start = f.start ∧ e.kind = .late :=
  SlidingLate.every_open_window_redelivered s r now none hl hlat f hf hin hop

/-- **Sliding late update, every history.** In every reachable state (ALLOWEDLATENESS > 0): a late row that lies
inside an interval `e` delivered before, arriving while the watermark has not passed `e.stop + ALLOWEDLATENESS`,
re-delivers that interval. -/
theorem sliding_late_row_redelivered_run (size slide ooo lateness : Int) (hl : 0 < lateness) (ops : List Sliding.Op)
    (e : Tumbling.Emission) (he : e ∈ (SlidingLate.run (SlidingLate.init size slide ooo lateness) ops).2)
        (hfirst : e.kind = .first)
    (r : Tumbling.Row) (now : Int)
    (hin : Tumbling.inSlot (SlidingLate.run (SlidingLate.init size slide ooo lateness) ops).1.base.size e.start r = true)
    (hlate : Sliding.lateNow (SlidingLate.run (SlidingLate.init size slide ooo lateness) ops).1.base r now = true)
    (hopen : ∀ c,
      (Sliding.wmAfter (SlidingLate.run (SlidingLate.init size slide ooo lateness) ops).1.base r now).cur = some c →
      c < e.stop + lateness) :
    ∃ e' ∈ (SlidingLate.stepAdd (SlidingLate.run (SlidingLate.init size slide ooo lateness) ops).1 r now none).2,
      e'.start = e.start ∧ e'.kind = .late := by
  have hlat : (SlidingLate.run (SlidingLate.init size slide ooo lateness) ops).1.lateness = lateness := by
    rw [SlidingLate.run_lateness]
    rfl
  have hreg := SlidingLate.reg_run (SlidingLate.init size slide ooo lateness) ops []
    (SlidingLate.wmInv_init size slide ooo lateness) hl (by intro e he; cases he)
  rw [List.nil_append] at hreg
  -- `Reg`: the delivered interval is still registered — then it is a target of the late row — or its allowance is
  -- at or below the watermark, which `hopen` excludes
  rcases hreg e he hfirst with ⟨f, hf, hs, hc⟩ | hb
  · rw [hlat] at hc
    obtain ⟨e', he', hst, hk⟩ := SlidingLate.every_open_window_redelivered _ r now none hlate (by rw [hlat]; exact hl) f hf
      (by rw [hs]; exact hin) (Tumbling.stillOpen_of_lt fun c hcur => hc ▸ hopen c hcur)
    exact ⟨e', he', by rw [hst, hs], hk⟩
  · exfalso
    rw [hlat] at hb
    obtain ⟨y, hy, hle⟩ := (Wm.Move.update _ r.ts now).mono hb
    exact absurd hle (Int.not_le.mpr (hopen y hy))

end sliding

section session
open Session Wm

/-- **No early delivery (session), every history.**  Every first delivery of a session ending at `e.stop` is backed
by an accepted event time or an idle tick's wall clock of at least `e.stop + MAXOUTOFORDERNESS`. -/
theorem session_no_early_delivery_full (timeout ooo lateness : Int) (ht : 0 < timeout) (ops : List Op) :
    ∀ e ∈ (run (init timeout ooo lateness) ops).2, e.late = false →
      (∃ m ∈ accepted ooo Facts.window_maxFutureSlack ops, e.stop + ooo ≤ m) ∨
      (∃ n ∈ idleNows ops, e.stop + ooo ≤ n) := by
  intro e he hl
  exact (run_backed (init timeout ooo lateness) ops _ _ [] [] (backed_init ooo)).source
    (run_firsts (init timeout ooo lateness) ops (inv_init timeout ooo lateness ht) e he hl).2.2

/-- **No early delivery (session).** Without idle ticks the backing is an ingested event. -/
theorem session_no_early_delivery (timeout ooo lateness : Int) (ht : 0 < timeout) (ops : List Op)
    (hni : ∀ op ∈ ops, NoIdle op) :
    ∀ e ∈ (run (init timeout ooo lateness) ops).2, e.late = false → ∃ m ∈ ingested ops, e.stop + ooo ≤ m := by
  intro e he hl
  rcases session_no_early_delivery_full timeout ooo lateness ht ops e he hl with ⟨m, hm, hle⟩ | ⟨n, hn, _⟩
  · exact ⟨m, accepted_sub_ingested _ _ ops m hm, hle⟩
  · rw [idleNows_of_noIdle ops hni] at hn
    cases hn

/-- **Discarded only if late (session).** -/
theorem session_drop_only_if_late (w : SWin) (k : Key) (r : Row) (now : Int) (h : fate w k r now = .lateDrop) :
    lateNow w r now = true := by
  by_cases hl : lateNow w r now = true
  · exact hl
  · have hl' : lateNow w r now = false := by simpa using hl
    rcases fate_ontime w k r now hl' with ⟨h', _⟩ | ⟨t, os, h', _⟩ <;> rw [h'] at h
    all_goals cases h

/-- **Late update (session).** A late row is absorbed only by a triggered session of its own key that contains it and is still
inside its allowance; the re-delivery carries that session's rows followed by the late row -/
theorem session_late_update (w : SWin) (k : Key) (r : Row) (now : Int) (t : Trig)
    (h : fate w k r now = .lateAbsorb t) :
    (stepAdd w k r now).2
      = [{ late := true, key := k, start := t.sess.start, stop := t.sess.stop, rows := t.sess.rows ++ [r] }] ∧
    t ∈ w.trig ∧ t.sess.key = k ∧ (t.sess.start ≤ r.ts ∧ r.ts < t.sess.stop) ∧
    stillOpen (wmAfter w r now).cur t = true ∧ 0 < w.lateness := by
  obtain ⟨_, hlat, hf⟩ := (fate_lateAbsorb_iff w k r now t).mp h
  obtain ⟨h1, h2, h3, h4⟩ := mem_of_findTrig hf
  refine ⟨?_, h1, h2, h3, h4, hlat⟩
  show addEmit w k r now = _
  unfold addEmit
  rw [h]

/-- **A fired session stays open for late rows until its allowance ends**, whatever else of its key fires meanwhile:
an expiry pass at watermark `x` keeps every registered session whose allowance reaches beyond `x`. -/
theorem session_registered_kept (w : SWin) (x : Int) (t : Trig) (hl : 0 < w.lateness) (ht : t ∈ w.trig)
    (hx : x < t.close) : t ∈ (stepExpire w x).1.trig :=
  (mem_trig_stepExpire w x t hl).mpr ⟨.inl ht, hx⟩

/-- An expiry pass at watermark `x` registers every session it fires whose allowance reaches beyond `x`, with the
rows it delivered. -/
theorem session_fired_registered (w : SWin) (x : Int) (e : Emission) (hl : 0 < w.lateness)
    (he : e ∈ (stepExpire w x).2) (hx : x < e.stop + w.lateness) :
    ∃ t ∈ (stepExpire w x).1.trig, t.sess.key = e.key ∧ t.sess.start = e.start ∧ t.sess.stop = e.stop ∧
      t.sess.rows = e.rows ∧ t.close = e.stop + w.lateness := by
  obtain ⟨s, hs, rfl⟩ := (mem_expire_emits w x e).mp he
  exact ⟨⟨s, s.stop + w.lateness⟩, (mem_trig_stepExpire w x _ hl).mpr ⟨.inr ⟨s, hs, rfl⟩, hx⟩,
    rfl, rfl, rfl, rfl, rfl⟩

/-- **Late update, the other direction.** A late row that falls into a registered session of its key whose allowance
the watermark has not passed is re-delivered, with that session's rows followed by the row. -/
theorem session_open_entry_redelivered (w : SWin) (k : Key) (r : Row) (now : Int) (t : Trig)
    (hl : 0 < w.lateness) (hlate : lateNow w r now = true) (ht : t ∈ w.trig) (hk : t.sess.key = k)
    (hin : t.sess.start ≤ r.ts ∧ r.ts < t.sess.stop) (hop : stillOpen (wmAfter w r now).cur t = true) :
    ∃ t' ∈ w.trig, t'.sess.key = k ∧ (t'.sess.start ≤ r.ts ∧ r.ts < t'.sess.stop) ∧
      (stepAdd w k r now).2
          = [{ late := true, key := k, start := t'.sess.start, stop := t'.sess.stop, rows := t'.sess.rows ++ [r] }] := by
  have hsome : (findTrig w k r.ts (wmAfter w r now).cur).isSome = true :=
    List.find?_isSome.mpr ⟨t, ht, by simp [slotHas, hk, hin.1, hin.2, hop]⟩
  obtain ⟨t', ht'⟩ := Option.isSome_iff_exists.mp hsome
  obtain ⟨hem, hmem, hkey, hslot, _, _⟩ :=
    session_late_update w k r now t' ((fate_lateAbsorb_iff w k r now t').mpr ⟨hlate, hl, ht'⟩)
  exact ⟨t', hmem, hkey, hslot, hem⟩

/-- **Late update, every history.** In every reachable state (ALLOWEDLATENESS > 0): a late row of the key of a session
`e` that was delivered before, with a timestamp inside it, arriving while the watermark has not passed
`e.stop + ALLOWEDLATENESS`, is re-delivered — the Add emits exactly one late result, of a registered session of that
key that contains the row.  (False before /repo abc3247: a later session of the key firing under the reused map key
dropped the registration.) -/
theorem session_late_row_redelivered_run (timeout ooo lateness : Int) (ht : 0 < timeout) (hl : 0 < lateness) (ops : List Op)
    (e : Emission) (he : e ∈ (run (init timeout ooo lateness) ops).2) (hfirst : e.late = false)
    (r : Row) (now : Int) (hin : e.start ≤ r.ts ∧ r.ts < e.stop)
    (hlate : lateNow (run (init timeout ooo lateness) ops).1 r now = true)
    (hopen : ∀ c, (wmAfter (run (init timeout ooo lateness) ops).1 r now).cur = some c → c < e.stop + lateness) :
    ∃ t' ∈ (run (init timeout ooo lateness) ops).1.trig, t'.sess.key = e.key ∧
      (t'.sess.start ≤ r.ts ∧ r.ts < t'.sess.stop) ∧
      (stepAdd (run (init timeout ooo lateness) ops).1 e.key r now).2 =
        [{ late := true, key := e.key, start := t'.sess.start, stop := t'.sess.stop, rows := t'.sess.rows ++ [r] }] := by
  have hlat : (run (init timeout ooo lateness) ops).1.lateness = lateness := by
    rw [run_lateness]
    rfl
  have hreg := reg_run (init timeout ooo lateness) ops [] (inv_init timeout ooo lateness ht) hl
    (by intro e he; cases he)
  rw [List.nil_append] at hreg
  rcases hreg e he hfirst with ⟨t, ht', hk, hs, hp, hc⟩ | hb
  · rw [hlat] at hc
    exact session_open_entry_redelivered _ e.key r now t (by rw [hlat]; exact hl) hlate ht' hk
      (by rw [hs, hp]; exact hin) (stillOpen_of_lt fun c hcur => hc ▸ hopen c hcur)
  · exfalso
    rw [hlat] at hb
    obtain ⟨y, hy, hle⟩ := (Wm.Move.update _ r.ts now).mono hb
    exact absurd hle (Int.not_le.mpr (hopen y hy))

end session

section demo
open Tumbling
/-- non-vacuity: a late update inside the allowance, one beyond it -/
def demoOps : List Op :=
  [.add ⟨1, 1005⟩ 1000000, .add ⟨2, 1030⟩ 1000000, .pop, .iter, .pop, .iter, .iter, .iter, .iter]
example : OpsOk demoOps := by unfold OpsOk; decide +kernel
example : NoIdleAll demoOps := by unfold NoIdleAll; decide +kernel
-- window [1000,1010) fired; ALLOWEDLATENESS 50 keeps it open until the watermark reaches 1060
example : (match fate (run (init 10 0 50) demoOps).1 ⟨3, 1007⟩ 1000000 with
    | .lateUpdate f => f.start == 1000 | _ => false) = true := by decide +kernel
example : (stepAdd (run (init 10 0 50) demoOps).1 ⟨3, 1007⟩ 1000000).2.map (fun e => e.rows.map (·.id))
    = [[1, 3]] := by decide +kernel
-- with the watermark already at 1100 (undelivered) the same row is beyond the allowance
example : fate (stepAdd (run (init 10 0 50) demoOps).1 ⟨4, 1100⟩ 1000000).1 ⟨3, 1007⟩ 1000000 = .drop := by decide +kernel
end demo

section sessionDemo
open Session
/-- the witness of the repaired defect: key a fires [90,95), later [101,106) under the reused map key; the late row a@92
arrives with the watermark at 120 < 95 + 30 and is re-delivered with the older session -/
def sessOps : List Op :=
  [.add ['a'] ⟨1, 90⟩ 1000000, .add ['b'] ⟨2, 100⟩ 1000000, .deliver, .deliver,
   .add ['a'] ⟨3, 101⟩ 1000000, .add ['b'] ⟨4, 120⟩ 1000000, .deliver, .deliver, .deliver]
example : ((run (init 5 0 30) sessOps).1.trig.map (fun t => (t.sess.start, t.sess.stop)))
    = [(90, 95), (101, 106), (100, 105)] := by decide +kernel
example : (stepAdd (run (init 5 0 30) sessOps).1 ['a'] ⟨5, 92⟩ 1000000).2.map (fun e => (e.late, e.start, e.stop,
    e.rows.map (·.id)))
    = [(true, 90, 95, [1, 5])] := by decide +kernel
end sessionDemo

section slidingDemo
open SlidingLate
/-- [1000,1020) fires and stays open until the watermark reaches 1070; row 3 @ 1007 arrives at watermark 1045 -/
def slideOps : List Sliding.Op :=
  [.add ⟨1, 1005⟩ 1000000, .add ⟨2, 1045⟩ 1000000, .pop, .iter, .pop, .iter, .iter, .iter, .iter, .iter]
example : (run (init 20 10 0 50) slideOps).2.map (fun e => (e.start, e.stop, e.rows.map (·.id)))
    = [(1000, 1020, [1])] := by decide +kernel
example : Sliding.lateNow (run (init 20 10 0 50) slideOps).1.base ⟨3, 1007⟩ 1000000 = true := by decide +kernel
example : (Sliding.wmAfter (run (init 20 10 0 50) slideOps).1.base ⟨3, 1007⟩ 1000000).cur = some 1045 := by decide +kernel
example : (stepAdd (run (init 20 10 0 50) slideOps).1 ⟨3, 1007⟩ 1000000 none).2.map (fun e => (e.start,
    e.rows.map (·.id))) = [(1000, [1, 3])] := by decide +kernel
end slidingDemo

end C02
