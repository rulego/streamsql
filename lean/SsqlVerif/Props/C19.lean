/-
C19 — every emitted row is either processed exactly once or counted as dropped.

All statements quantify over `Reach c n s`: every state the ingest protocol (`Model/Ingest`) can
reach from `init c n` — any configuration `c`, any number `n` of producers, any number of rows, and
*any interleaving* of the producers' code segments with the consumer, the channel migration and
Stop (`run_reaches` ties the executable `run` to it).  No bound on anything.
-/
import SsqlVerif.Proofs.IngestSpec
import SsqlVerif.Generated.Facts
set_option autoImplicit false

namespace C19
open Ingest

theorem run_reaches (c : Cfg) (n : Nat) (sched : List (Tid × Wit)) : Reach c n (run c (init c n) sched) :=
  run_reach c n sched _ Reach.init

/-- **Conservation.** At every moment, under every interleaving, the rows handed to Emit are
exactly (as a multiset): the processed rows, the rows counted as dropped, the rows whose Emit
returned silently because the stream was stopped, the rows buffered in some channel (old or new,
during migration too) and the rows of the Emit calls still in progress. `input_count` counts the
Emit calls. -/
theorem conservation (c : Cfg) (n : Nat) (s : State) (h : Reach c n s) :
    (accounted s).Perm (entered s) ∧ s.input = (entered s).length :=
  ⟨(reach_invariants c n s h).2.1.perm, (reach_invariants c n s h).2.1.input⟩

/-- **Conservation at quiescence.** While the instance is not stopped, once all Emit calls have
returned, `#processed + input_dropped_count + data_chan_len = input_count`; with the buffer
drained, processed + dropped = Emit calls. -/
theorem conservation_quiescent (c : Cfg) (n : Nat) (s : State) (h : Reach c n s)
    (hst : s.stopped = false) (hidle : allIdle s = true) :
    s.processed.length + s.dropped.length + curLen s = s.input ∧
    (curLen s = 0 → s.processed.length + s.dropped.length = s.input) := by
  have := quiescent_count (reach_invariants c n s h).1 (reach_invariants c n s h).2.1 hst hidle
  refine ⟨this, fun h0 => ?_⟩
  rw [h0] at this
  exact this

/-- **No duplicate.** No row occurs twice anywhere in the system — in particular no row is
processed twice, and a processed row is never also counted as dropped — also while the input
buffer is being expanded. -/
theorem no_duplicate (c : Cfg) (n : Nat) (s : State) (h : Reach c n s) :
    (accounted s).Nodup ∧ s.processed.Nodup := by
  have ⟨hinv, hci, _⟩ := reach_invariants c n s h
  exact ⟨accounted_nodup hinv hci, processed_nodup hinv hci⟩

/-- **Block never drops.** With the block strategy and no timeout nothing is ever counted as
dropped, and an Emit call returns without delivering its row only if the stream was stopped. -/
theorem block_never_drops (c : Cfg) (n : Nat) (s : State) (h : Reach c n s)
    (hb : c.strat = .block) (ht : c.timeout = false) :
    s.dropped = [] ∧ (s.exits ≠ [] → s.stopped = true) :=
  ⟨(reach_invariants c n s h).1.core.noDrop hb ht, (reach_invariants c n s h).1.core.exits_stopped⟩

/-- **Capacity bound.** Expansion never exceeds the configured maximum: every channel ever
allocated has capacity ≤ max(MaxBufferSize, initial size), and ≥ the initial size. -/
theorem capacity_le_max (c : Cfg) (n : Nat) (s : State) (h : Reach c n s) :
    (0 < c.maxCap → ∀ ch ∈ s.chans, ch.cap ≤ max c.maxCap c.cap0) ∧ (∀ ch ∈ s.chans, c.cap0 ≤ ch.cap) :=
  ⟨(reach_invariants c n s h).1.core.capsMax, (reach_invariants c n s h).1.core.capsMin⟩

/-- **Expansion is monotone.** Every newly allocated channel is strictly larger than all earlier
ones, and (outside a migration) the current channel is the largest. -/
theorem expansion_monotone (c : Cfg) (n : Nat) (s : State) (h : Reach c n s) :
    List.Pairwise (· < ·) (s.chans.map (·.cap)) ∧
    (s.mig = none → ∀ k ch, s.curCh = some k → s.chans[k]? = some ch → ∀ x ∈ s.chans, x.cap ≤ ch.cap) := by
  have hinv := (reach_invariants c n s h).1
  refine ⟨hinv.core.capsInc, ?_⟩
  intro hm k ch hk hch
  exact caps_le_last hinv.core.capsInc hch (hinv.core.curLast hm k hk)

/-- **Single-producer order** (for the consumer of the repaired code, `consLock = true`): when the
consumer receives under the read lock, each producer's rows are processed in emission order — for any
number of concurrent producers, expansions and migrations. -/
theorem single_producer_order (c : Cfg) (n : Nat) (s : State) (h : Reach c n s) (hcl : c.consLock = true) (p : Nat) :
    List.Pairwise (· < ·) (seqsOf p s.processed) :=
  processed_sorted ((reach_invariants c n s h).2.2 hcl) p

/-- the same statement without the hypothesis on the consumer -/
def single_producer_order_unlocked_full : Prop :=
  ∀ (c : Cfg) (n : Nat) (s : State), Reach c n s → ∀ p, List.Pairwise (· < ·) (seqsOf p s.processed)

def staleCfg : Cfg :=
  { strat := .expand, cap0 := 2, maxCap := 10, growNum := 2, growDen := 1, minInc := 1, thrNum := 1, thrDen := 2,
    timeout := false, consLock := false }

/-- the schedule of the defect found in the code as it was: the consumer reads the channel
reference, the producer fills the buffer and starts migrating, row 0 moves to the new channel,
the consumer receives row 1 from the old one -/
def staleSched : List (Tid × Wit) :=
  [(.cons, .tick)] ++ List.replicate 13 (.prod 0, .timer) ++ [(.cons, .recv), (.prod 0, .timer), (.cons, .tick), (.cons, .recv)]

/-- **Without the read lock around the receive the order can invert** (negation witness; this
is the behaviour the check found on the unrepaired code, see `corpus/C19/stale-pointer.ops`). -/
theorem single_producer_order_unlocked_fails : ¬ single_producer_order_unlocked_full := by
  intro h
  have := h staleCfg 1 _ (run_reaches staleCfg 1 staleSched) 0
  revert this
  decide +kernel

/-- **The model satisfies the declarative specification** the driver evaluates on the
implementation's observables (once-only, order, counted, accounted, conserved, block-never-drops,
capacity), whenever no migration is in progress at the moment of the look. -/
theorem spec_holds (c : Cfg) (n : Nat) (s : State) (h : Reach c n s) (hcl : c.consLock = true) (hmig : s.mig = none) :
    IngestSpec.holds (kfgOf c) (observe s) = true :=
  have ⟨hinv, hci, hord⟩ := reach_invariants c n s h
  holds_observe hinv hci (hord hcl) hmig

def demoCfg : Cfg :=
  { strat := .expand, cap0 := 1, maxCap := 3, growNum := 3, growDen := 2, minInc := 1, thrNum := 1, thrDen := 2,
    timeout := false, consLock := true }

/-- one producer, buffer of 1: the buffer expands 1 → 2 with a migration, both rows processed in order -/
def demoSched : List (Tid × Wit) :=
  List.replicate 14 (.prod 0, .timer) ++ [(.cons, .tick), (.cons, .recv), (.cons, .tick), (.cons, .recv)]

example : (run demoCfg (init demoCfg 1) demoSched).processed = [⟨0, 0⟩, ⟨0, 1⟩] := by decide +kernel
example : (run demoCfg (init demoCfg 1) demoSched).chans.map (·.cap) = [1, 2] := by decide +kernel
example : allIdle (run demoCfg (init demoCfg 1) demoSched) = true ∧
    (run demoCfg (init demoCfg 1) demoSched).input = 2 := by decide +kernel
/-- the inversion reached by the witness schedule -/
example : (run staleCfg (init staleCfg 1) staleSched).processed = [⟨0, 1⟩, ⟨0, 0⟩] := by decide +kernel
/-- a drop is reachable (drop strategy, buffer of 1, consumer never runs) -/
example : (run { demoCfg with strat := .drop } (init demoCfg 1) (List.replicate 14 (.prod 0, .timer))).dropped =
    [⟨0, 1⟩] := by
  decide +kernel
/-- the block strategy with a timeout does drop: the hypothesis of `block_never_drops` matters -/
example : (run { demoCfg with strat := .block, timeout := true } (init demoCfg 1)
    (List.replicate 5 (.prod 0, .send) ++ [(.prod 0, .timer)])).dropped = [⟨0, 1⟩] := by decide +kernel
example : expandDecision demoCfg 1 1 = some 2 := by decide +kernel
example : expandDecision demoCfg 3 3 = none := by decide +kernel

end C19

/-! the literals factsgen extracts from the Go functions on every run, next to the three defaults of
`Model/Ingest`; the retry bounds the model uses are numerals there and are not tied here -/
theorem C19.facts_ingest :
    Facts.stream_Stream_expandDataChannel_numlits =
      ["0", "1", "0", "0", "0", "0", "0.8", "1", "1.5", "0", "1000", "0", "5", "0"] ∧
    Facts.stream_ExpansionStrategy_ProcessData_intlits = [1, 0, 3, 100] ∧
    Facts.stream_DropStrategy_ProcessData_intlits = [0, 3, 100] ∧
    Facts.stream_BlockingStrategy_ProcessData_intlits = [1, 0] ∧
    Facts.stream_StrategyDrop = "drop" ∧ Facts.stream_StrategyBlock = "block" ∧ Facts.stream_StrategyExpand = "expand" ∧
    Ingest.defaultMinInc = 1000 ∧ Ingest.defaultGrow = (3, 2) ∧ Ingest.defaultThr = (4, 5) := by decide +kernel
