/-
C03: a whole run of an aggregator object (`Agg.run`) is the definition (`AggSpec.value`), and what
`AggSpec.value` depends on.
-/
import SsqlVerif.Proofs.AggLaws
set_option autoImplicit false

namespace AggProofs
open Agg AggSpec NumOps

variable {ν : Type} [NumOps ν]

/-- aggregates whose definition involves sorting -/
def usesSort : Kind → Bool
  | .median => true
  | .percentile => true
  | _ => false

def orderInsensitive : Kind → Bool
  | .count | .sum | .avg | .min | .max | .stddev | .stddevs | .var | .vars | .median | .percentile => true
  | _ => false

theorem run_of_hom {σ : Type} {e : Env ν} {prm : Param ν} {k : Kind} (C : σ → St ν) (g : σ → Val ν → σ)
    {s : σ} (hk : St.new k = C s) (h : ∀ s v, St.add e (C s) v = C (g s v)) {l : List (Val ν)}
    {r : Res ν} (hr : (C (l.foldl g s)).result e prm = r) : run e prm k l = r := by
  rw [run, hk, List.foldl_hom C h, hr]

theorem run_of_nums {σ : Type} {e : Env ν} {prm : Param ν} {k : Kind} (C : σ → St ν) (g : σ → ν → σ)
    {s : σ} (hk : St.new k = C s)
    (h : ∀ s v, St.add e (C s) v = C (match toFloat e v with | none => s | some x => g s x))
    {l : List (Val ν)} {r : Res ν} (hr : (C ((nums e l).foldl g s)).result e prm = r) :
    run e prm k l = r :=
  run_of_hom C _ hk h
    ((congrArg (fun s => (C s).result e prm) (foldl_optStep (toFloat e) g _ (fun _ _ => rfl) s l)).trans hr)

theorem run_nums {e : Env ν} {prm : Param ν} {k : Kind} (hk : (St.new k : St ν) = .nums k [])
    {l : List (Val ν)} {x : ν} (hx : numsResult prm k (nums e l) = x) : run e prm k l = .one (.flt x) :=
  run_of_nums (St.nums k) (fun acc x => acc ++ [x]) hk (fun _ _ => rfl) <| by
    rw [foldl_snoc_list, ← hx]
    rfl

theorem run_anys {e : Env ν} {prm : Param ν} {k : Kind} (hk : (St.new k : St ν) = .anys k [])
    {l : List (Val ν)} {r : Res ν} (hr : anysResult e prm k l = r) : run e prm k l = r :=
  run_of_hom (St.anys k) (fun acc x => acc ++ [x]) hk (fun _ _ => rfl) <| by
    rw [foldl_snoc_list, ← hr]
    rfl

section
variable (e : Env ν) (prm : Param ν)

theorem run_eq_value_nosort (k : Kind) (hk : usesSort k = false)
    (l : List (Val ν)) : run e prm k l = value e prm k l := by
  cases k with
  | count =>
    exact run_of_hom St.count countAdd rfl (fun _ _ => rfl)
      (congrArg (fun n => Res.one (countResult n)) ((count_fold l 0).trans (Nat.zero_add _)))
  | sum =>
    exact run_of_nums St.sum SumSt.addNum rfl (fun _ _ => rfl) (congrArg Res.one (sum_result _))
  | avg =>
    exact run_of_nums St.avg AvgSt.addNum rfl (fun _ _ => rfl) (congrArg Res.one (avg_result _))
  | min =>
    exact run_of_nums St.min ExtSt.minNum rfl (fun _ _ => rfl) (congrArg Res.one (min_result _))
  | max =>
    exact run_of_nums St.max ExtSt.maxNum rfl (fun _ _ => rfl) (congrArg Res.one (max_result _))
  | stddev => exact run_nums rfl (stddevResult_eq _)
  | stddevs => exact run_nums rfl (stddevResult_eq _)
  | var => exact run_nums rfl (varResult_eq _)
  | vars => exact run_nums rfl (varsResult_eq _)
  | median | percentile => cases hk
  | firstValue =>
    exact run_of_hom St.first FirstSt.add rfl (fun _ _ => rfl) (congrArg Res.one (first_result l))
  | lastValue =>
    exact run_of_hom St.last (fun _ x => x) rfl (fun _ _ => rfl) (congrArg Res.one (last_fold l _))
  | nthValue => exact run_anys rfl (congrArg Res.one (nthResult_eq _ l))
  | collect => exact run_anys rfl rfl
  | dedup =>
    exact run_of_hom St.dedup (DedupSt.add e) rfl (fun _ _ => rfl)
      (congrArg (fun s : DedupSt ν => Res.many s.values) (dedup_fold e l))
  | mergeAgg => exact run_anys rfl (congrArg Res.one (mergeResult_eq e l))

theorem run_eq_value [LawfulOrd ν] (k : Kind) (l : List (Val ν)) :
    run e prm k l = value e prm k l := by
  cases hs : usesSort k with
  | false => exact run_eq_value_nosort e prm k hs l
  | true =>
    cases k with
    | median => exact run_nums rfl (medianResult_eq _)
    | percentile => exact run_nums rfl (percentileResult_eq _ _)
    | _ => cases hs

/-- an order-insensitive aggregate sees its input only through the usable numbers, `count` only
through the number of non-NULLs -/
theorem value_eq_of_nums_eq {k : Kind} (hk : orderInsensitive k = true)
    {l l' : List (Val ν)} (hn : nums e l = nums e l')
    (hc : k = .count → countNonNull l = countNonNull l') : value e prm k l = value e prm k l' := by
  cases k with
  | count =>
    dsimp only [value]
    rw [hc rfl]
  | firstValue | lastValue | nthValue | collect | dedup | mergeAgg => cases hk
  | _ =>
    dsimp only [value]
    rw [hn]

theorem value_perm [LawfulNum ν] (k : Kind) (hk : orderInsensitive k = true)
    {l l' : List (Val ν)} (h : l.Perm l') : value e prm k l = value e prm k l' := by
  have hn : (nums e l).Perm (nums e l') := h.filterMap _
  cases k
  all_goals dsimp only [value]
  case count => rw [countNonNull_perm h]
  case sum => rw [numOrNull_perm total_perm hn]
  case avg => rw [numOrNull_perm average_perm hn]
  case min => rw [least_perm hn]
  case max => rw [greatest_perm hn]
  case stddev => rw [sampleStdDev_perm hn]
  case stddevs => rw [sampleStdDev_perm hn]
  case var => rw [populationVariance_perm hn]
  case vars => rw [sampleVariance_perm hn]
  case median => rw [medianOf_perm hn]
  case percentile => rw [percentileOf_perm hn prm.p]
  all_goals cases hk

omit [NumOps ν] in
theorem optNum_eq_flt {o : Option ν} {m : ν} (h : optNum o = .flt m) : o = some m := by
  cases o with
  | none => cases h
  | some m' =>
    cases h
    rfl

omit [NumOps ν] in
theorem countNonNull_of_nulls (l : List (Val ν)) (h : ∀ v ∈ l, v.isNull = true) : countNonNull l = 0 :=
  congrArg List.length <| List.filter_eq_nil_iff.mpr fun v hv => by
    rw [h v hv]
    decide

end

theorem nums_filter_null (e : Env ν) (l : List (Val ν)) :
    nums e (l.filter fun v => !v.isNull) = nums e l := by
  unfold nums
  rw [List.filterMap_filter]
  congr 1
  funext v
  cases v <;> rfl

omit [NumOps ν] in
theorem countNonNull_filter_null (l : List (Val ν)) :
    countNonNull (l.filter fun v => !v.isNull) = countNonNull l := by
  unfold countNonNull
  rw [List.filter_filter]
  simp only [Bool.and_self]

theorem value_filter_null (e : Env ν) (prm : Param ν) (k : Kind) (hk : orderInsensitive k = true)
    (l : List (Val ν)) : value e prm k (l.filter fun v => !v.isNull) = value e prm k l :=
  value_eq_of_nums_eq e prm hk (nums_filter_null e l) (fun _ => countNonNull_filter_null l)

theorem run_filter_null (e : Env ν) (prm : Param ν) (k : Kind) (hk : orderInsensitive k = true)
    (l : List (Val ν)) : run e prm k (l.filter fun v => !v.isNull) = run e prm k l := by
  cases hs : usesSort k with
  | false =>
    rw [run_eq_value_nosort e prm k hs, run_eq_value_nosort e prm k hs, value_filter_null e prm k hk]
  | true =>
    have hnew : (St.new k : St ν) = .nums k [] := by
      cases k with
      | median => rfl
      | percentile => rfl
      | _ => cases hs
    rw [run_nums hnew rfl, run_nums hnew rfl, nums_filter_null]

end AggProofs
