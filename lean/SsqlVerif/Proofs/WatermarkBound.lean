/-
`Bnd`: while only event times move it, the watermark never exceeds (largest recorded event time −
MAXOUTOFORDERNESS).  The far-future guard, one `send` call, and the op-list notions `NoIdle`, `ingested` (C02, C10).
-/
import SsqlVerif.Proofs.Watermark
import SsqlVerif.Model.Tumbling
import SsqlVerif.Model.Session
set_option autoImplicit false

namespace Wm

/-- the watermark is backed by an ingested maximum -/
def Bnd (w : Wm) : Prop := ∀ c, w.cur = some c → ∃ m, w.maxEv = some m ∧ c ≤ m - w.maxOOO

/-- the recorded maximum is one of the timestamps in `l` -/
def MaxIn (l : List Int) (w : Wm) : Prop := ∀ m, w.maxEv = some m → m ∈ l

theorem maxIn_mono (l l' : List Int) (w : Wm) (h : MaxIn l w) (hs : ∀ x ∈ l, x ∈ l') : MaxIn l' w :=
  fun m hm => hs m (h m hm)

theorem bnd_send (w : Wm) (h : Bnd w) : Bnd (send w) := by
  intro c hc
  rw [send_cur] at hc
  rw [send_maxEv, send_maxOOO]
  exact h c hc

theorem bnd_updateEventTime (w : Wm) (ts now : Int) (h : Bnd w) : Bnd (updateEventTime w ts now) := by
  fun_cases updateEventTime w ts now
  case case1 => exact h  -- too far ahead
  case case2 =>
    apply bnd_send
    fun_cases bumpMax w ts
    case case1 haft =>  -- new maximum
      intro c hc
      refine ⟨ts, rfl, ?_⟩
      rcases raise_cases _ _ _ hc with rfl | hc
      · exact Int.le_refl _
      · -- not raised: the old bound holds, and the new maximum is above the old one
        obtain ⟨m, hm, hle⟩ := h c hc
        simp only [after, hm, decide_eq_true_eq] at haft
        exact Int.le_trans hle (Int.sub_le_sub_right (Int.le_of_lt haft) _)
    case case2 => exact h

theorem bnd_tick (w : Wm) (now : Int) (h : Bnd w) : Bnd (tick w false now) := by
  fun_cases tick w false now
  case case1 => exact h  -- no event yet
  case case2 m hm =>
    apply bnd_send
    intro c hc
    refine ⟨m, hm, ?_⟩
    rcases raise_cases _ _ _ hc with rfl | hc
    · exact Int.le_refl _
    · obtain ⟨m', hm', hle⟩ := h c hc
      rw [hm] at hm'
      cases hm'
      exact hle

theorem bnd_pop (w w' : Wm) (x : Int) (h : Bnd w) (hp : pop w = some (x, w')) : Bnd w' := by
  obtain ⟨rest, _, rfl⟩ := pop_eq w x w' hp
  exact h

theorem tick_maxEv (w : Wm) (idle : Bool) (now : Int) : (tick w idle now).maxEv = w.maxEv := by
  fun_cases tick w idle now
  case case1 => rfl  -- no event yet
  case case2 => rw [send_maxEv]

theorem pop_maxEv (w w' : Wm) (x : Int) (hp : pop w = some (x, w')) : w'.maxEv = w.maxEv ∧ w'.maxOOO = w.maxOOO := by
  obtain ⟨rest, _, rfl⟩ := pop_eq w x w' hp
  exact ⟨rfl, rfl⟩

theorem updateEventTime_maxOOO (w : Wm) (ts now : Int) : (updateEventTime w ts now).maxOOO = w.maxOOO := by
  fun_cases updateEventTime w ts now
  case case1 => rfl  -- too far ahead
  case case2 =>
    rw [send_maxOOO]
    unfold bumpMax
    split <;> rfl

theorem tick_maxOOO (w : Wm) (idle : Bool) (now : Int) : (tick w idle now).maxOOO = w.maxOOO := by
  fun_cases tick w idle now
  case case1 => rfl  -- no event yet
  case case2 => rw [send_maxOOO]

theorem future_inert (w : Wm) (ts now : Int) (h : tooFar w ts now = true) : updateEventTime w ts now = w := by
  unfold updateEventTime
  rw [if_pos h]

theorem send_delivers (w : Wm) (c : Int) (hc : w.cur = some c) (hroom : w.chan.length < w.cap) :
    (send w).lastSent = some c ∨ (w.lastSent = (send w).lastSent ∧ after c w.lastSent = false) := by
  unfold send
  rw [hc]
  simp only
  by_cases ha : after c w.lastSent = true
  · rw [if_pos ha, if_pos hroom]
    exact Or.inl rfl
  · rw [if_neg ha]
    exact Or.inr ⟨rfl, by simpa using ha⟩

end Wm

namespace Tumbling

def NoIdle : Op → Prop
  | .tick idle _ => idle = false
  | _ => True

instance (op : Op) : Decidable (NoIdle op) := by
  cases op <;> simp only [NoIdle] <;> infer_instance

def ingested : List Op → List Int
  | [] => []
  | .add r _ :: ops => r.ts :: ingested ops
  | _ :: ops => ingested ops

end Tumbling

namespace Session

def NoIdle : Op → Prop
  | .tick idle _ => idle = false
  | _ => True

def ingested : List Op → List Int
  | [] => []
  | .add _ r _ :: ops => r.ts :: ingested ops
  | _ :: ops => ingested ops

end Session
