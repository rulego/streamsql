/-
C16: the type-tagged key text decides key equality (given injective float formatting), and the
index refines the abstract map.
-/
import SsqlVerif.Model.Join
import SsqlVerif.Spec.Join
import SsqlVerif.Proofs.GroupKey
set_option autoImplicit false

namespace Join
open JoinSpec GroupKey

section
variable {κ σ ρ : Type} [DecidableEq σ]

def opKey : Op κ ρ → κ
  | .upsert k _ => k
  | .delete k => k
  | .emit k => k

/-- The index `t`, read through the encoder, is the abstract map `m` on the keys in `P`: a set on
which equal encodings mean equal keys (C16: one arity, as `encodeKey_eq_iff` needs equal lengths). -/
def Represents (enc : κ → σ) (P : κ → Prop) (t : Index σ ρ) (m : AMap κ ρ) : Prop :=
  ∀ q, P q → lookup t (enc q) = m q

end

section Keys
variable {F : Type} [DecidableEq F] (nf : NumFmt F)

/-- equal components have the same text — no assumption on the formatting -/
theorem encodeOne_of_compEq (a b : KVal F) : compEq nf a b = true → encodeOne nf a = encodeOne nf b := by
  have num (x y : F) (h : decide (x = y) = true) : 'n' :: ':' :: nf.fmt x = 'n' :: ':' :: nf.fmt y :=
    congrArg (fun z => 'n' :: ':' :: nf.fmt z) (of_decide_eq_true h)
  fun_cases compEq nf a b with
  | case1 => exact fun _ => rfl -- NULL NULL
  | case2 s t => exact fun h => congrArg (fun y => 's' :: ':' :: y) (of_decide_eq_true h)
  | case3 x y => exact fun h => congrArg (fun z => 'b' :: ':' :: boolStr z) (of_decide_eq_true h)
  | case4 i j => exact num _ _ -- int int
  | case5 i g => exact num _ _ -- int float
  | case6 f j => exact num _ _ -- float int
  | case7 f g => exact num _ _ -- float float
  | case8 => exact fun h => nomatch h -- unequal kinds

/-- the first symbol tells NULL, number, string and bool apart; behind the tag the payload
determines the value, for numbers by `hinj` -/
theorem compEq_of_encodeOne (hinj : ∀ x y : F, nf.fmt x = nf.fmt y → x = y) (a b : KVal F)
    (h : encodeOne nf a = encodeOne nf b) : compEq nf a b = true := by
  have num (x y : F) (h : 'n' :: ':' :: nf.fmt x = 'n' :: ':' :: nf.fmt y) : decide (x = y) = true :=
    decide_eq_true (hinj x y (List.cons.inj (List.cons.inj h).2).2)
  cases a with
  | null =>
    cases b with
    | null => rfl
    | _ => exact absurd (List.cons.inj h).1 (by decide)
  | int x | flt x =>
    cases b with
    | int y | flt y => exact num _ _ h
    | _ => exact absurd (List.cons.inj h).1 (by decide)
  | str s =>
    cases b with
    | str t => exact decide_eq_true (List.cons.inj (List.cons.inj h).2).2
    | _ => exact absurd (List.cons.inj h).1 (by decide)
  | bool x =>
    cases b with
    | bool y => exact decide_eq_true (boolStr_injective x y (List.cons.inj (List.cons.inj h).2).2)
    | _ => exact absurd (List.cons.inj h).1 (by decide)

theorem keyEq_iff (k k' : List (KVal F)) : keyEq nf k k' = true ↔
    k.length = k'.length ∧ ∀ i (h : i < k.length) (h' : i < k'.length), compEq nf k[i] k'[i] = true := by
  induction k generalizing k' with
  | nil =>
    cases k' with
    | nil => exact ⟨fun _ => ⟨rfl, fun _ h => (nomatch h)⟩, fun _ => rfl⟩
    | cons b bs => exact ⟨fun h => (nomatch h), fun h => (nomatch h.1)⟩
  | cons a as ih =>
    cases k' with
    | nil => exact ⟨fun h => (nomatch h), fun h => (nomatch h.1)⟩
    | cons b bs =>
      rw [keyEq, Bool.and_eq_true, ih bs]
      constructor
      · rintro ⟨h0, hl, hr⟩
        refine ⟨congrArg Nat.succ hl, fun i h h' => ?_⟩
        cases i with
        | zero => exact h0
        | succ j => exact hr j _ _
      · rintro ⟨hl, H⟩
        exact ⟨H 0 (Nat.zero_lt_succ _) (Nat.zero_lt_succ _), Nat.succ.inj hl,
          fun i h h' => H (i + 1) (Nat.succ_lt_succ h) (Nat.succ_lt_succ h')⟩

theorem keyEq_length : ∀ (k k' : List (KVal F)), keyEq nf k k' = true → k.length = k'.length :=
  fun k k' h => ((keyEq_iff nf k k').1 h).1

theorem encodeKey_of_keyEq (k k' : List (KVal F)) (h : keyEq nf k k' = true) :
    encodeKey nf k = encodeKey nf k' := by
  obtain ⟨hl, H⟩ := (keyEq_iff nf k k').1 h
  refine congrArg encJoin (List.ext_getElem (by rw [List.length_map, List.length_map, hl]) fun i h1 h2 => ?_)
  rw [List.getElem_map, List.getElem_map]
  exact encodeOne_of_compEq nf _ _ (H i _ _)

theorem encodeKey_eq_iff (hinj : ∀ x y : F, nf.fmt x = nf.fmt y → x = y)
    (k k' : List (KVal F)) (hl : k.length = k'.length) :
    encodeKey nf k = encodeKey nf k' ↔ keyEq nf k k' = true := by
  refine ⟨fun h => (keyEq_iff nf k k').2 ⟨hl, fun i h1 h2 => ?_⟩, encodeKey_of_keyEq nf k k'⟩
  have hm := encJoin_injective _ _ (by rw [List.length_map, List.length_map, hl]) h
  have hi := List.getElem_of_eq hm (i := i) (by simpa using h1)
  rw [List.getElem_map, List.getElem_map] at hi
  exact compEq_of_encodeOne nf hinj _ _ hi

end Keys

section Table
variable {σ ρ : Type} [DecidableEq σ]

theorem lookup_erase (t : Index σ ρ) (k q : σ) :
    lookup (erase t k) q = if k = q then none else lookup t q := by
  fun_induction erase t k with
  | case1 => exact (ite_self _).symm
  | case2 e rest ih =>
    rw [ih, lookup]
    split <;> rfl
  | case3 e rest k h ih =>
    rw [lookup, ih, lookup]
    by_cases hq : e.1 = q
    · rw [if_pos hq, if_neg fun hk => h (hq.trans hk.symm), if_pos hq]
    · rw [if_neg hq, if_neg hq]

theorem lookup_upsert (t : Index σ ρ) (k q : σ) (r : ρ) :
    lookup (upsert t k r) q = if k = q then some r else lookup t q := by
  unfold upsert
  by_cases h : k = q
  · simp [lookup, h]
  · simp [lookup, h, lookup_erase]

end Table

section Refine
variable {κ σ ρ : Type} [DecidableEq σ] (enc : κ → σ) (eqv : κ → κ → Bool) (P : κ → Prop)

theorem enrich_eq_expected (jt : JoinType) (o : Option ρ) : enrich jt o = expected jt o := by
  cases o <;> cases jt <;> rfl

theorem represents_step (henc : ∀ k k', P k → P k' → (enc k = enc k' ↔ eqv k k' = true))
    (t : Index σ ρ) (m : AMap κ ρ) (h : Represents enc P t m) (op : Op κ ρ) (hop : P (opKey op)) :
    Represents enc P (tableAfter enc t [op]) (step eqv m op) := by
  intro q hq
  cases op with
  | upsert k r => simp only [tableAfter, step, lookup_upsert, henc k q hop hq, h q hq]
  | delete k => simp only [tableAfter, step, lookup_erase, henc k q hop hq, h q hq]
  | emit k => exact h q hq

theorem run_refines (henc : ∀ k k', P k → P k' → (enc k = enc k' ↔ eqv k k' = true)) (jt : JoinType)
    (ops : List (Op κ ρ)) (t : Index σ ρ) (m : AMap κ ρ) (h : Represents enc P t m)
    (hP : ∀ op ∈ ops, P (opKey op)) : run enc jt t ops = outputs eqv jt m ops := by
  induction ops generalizing t m with
  | nil => rfl
  | cons op ops ih =>
    have hop : P (opKey op) := hP op List.mem_cons_self
    have hs := ih _ _ (represents_step enc eqv P henc t m h op hop) fun op' h' => hP op' (List.mem_cons_of_mem _ h')
    cases op with
    | upsert k r | delete k => exact hs
    | emit k =>
      rw [run, outputs, h k hop, enrich_eq_expected]
      exact congrArg _ hs

theorem represents_empty : Represents enc P ([] : Index σ ρ) (JoinSpec.empty : AMap κ ρ) := fun _ _ => rfl

theorem run_append (jt : JoinType) (a b : List (Op κ ρ)) (t : Index σ ρ) :
    run enc jt t (a ++ b) = run enc jt t a ++ run enc jt (tableAfter enc t a) b := by
  induction a generalizing t with
  | nil => rfl
  | cons op a ih =>
    cases op <;> simp only [List.cons_append, run, tableAfter, ih]

end Refine
end Join
