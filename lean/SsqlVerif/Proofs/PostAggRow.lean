/-
The result row of a group (`fullRow`: aggregator row, templates evaluated, placeholders removed) shows
exactly the relational row `Spec.specRow`; the rewritten HAVING predicate on it is the relational one;
no placeholder or hidden column leaves the pipeline.
-/
import SsqlVerif.Proofs.PostAggList
set_option autoImplicit false

namespace PostAgg

theorem mem_of_contains {l : List Name} {n : Name} : l.contains n = true ↔ n ∈ l := by
  simp

variable {ν : Type} (N : Num ν) (q : Query ν)

theorem numOf_optVal (o : Option ν) : numOf (some (optVal o)) = o := by cases o <;> rfl

theorem nodupNames_iff (l : List Name) : nodupNames l = true ↔ l.Nodup := by
  induction l with
  | nil => simp [nodupNames]
  | cons x xs ih => simp [nodupNames, ih, List.nodup_cons]

theorem wf_names (h : wf q = true) : (q.gcol :: q.items.map (·.1)).Nodup := by
  simp only [wf, Bool.and_eq_true] at h
  exact (nodupNames_iff _).mp h.1

theorem wf_noRef (h : wf q = true) : ∀ it ∈ q.items, noRef it.2 = true := by
  simp only [wf, Bool.and_eq_true, List.all_eq_true] at h
  exact h.2

def cellVisible (kv : Key ν × Val ν) : Option (Name × Val ν) :=
  match kv.1 with
  | .col n => some (n, kv.2)
  | _ => none

theorem visible_eq (r : Row ν) : visible r = r.filterMap cellVisible := rfl

theorem visible_filter (p : Key ν × Val ν → Bool) (hp : ∀ n v, p (.col n, v) = true) (r : Row ν) :
    visible (r.filter p) = visible r := by
  rw [visible_eq, visible_eq, List.filterMap_filter]
  congr 1
  funext ⟨k, v⟩
  cases k with
  | col n => exact if_pos (hp n v)
  | ph f a => exact ite_self _
  | hv f a => exact ite_self _

theorem allVisible_eq (r : Row ν) : allVisible r = r.all (fun kv => !isPh kv.1 && !isHv kv.1) := by
  unfold allVisible
  congr 1
  funext ⟨k, v⟩
  cases k <;> rfl

/-- a placeholder or hidden cell holds the aggregate of the call it is named after -/
def CellOK (rows : List (InRow ν)) (kv : Key ν × Val ν) : Prop :=
  match kv.1 with
  | .col _ => True
  | .ph f a => kv.2 = optVal (aggEval N f a rows)
  | .hv f a => kv.2 = optVal (aggEval N f a rows)

theorem itemCells_cases (g : Group ν) (it : Name × Expr ν) :
    (∃ f a, it.2 = .agg f a ∧ itemCells N g it = [aggCell N g (.col it.1) (f, a)]) ∨
    (isPlain it.2 = false ∧ itemCells N g it
      = (Key.col it.1, Val.null) :: (calls it.2).map (fun c => aggCell N g (.ph c.1 c.2) c)) := by
  obtain ⟨n, e⟩ := it
  cases e with
  | agg f a => exact .inl ⟨f, a, rfl, rfl⟩
  | lit x => exact .inr ⟨rfl, rfl⟩
  | bin o l r => exact .inr ⟨rfl, rfl⟩
  | ref m => exact .inr ⟨rfl, rfl⟩

theorem mem_aggRow (g : Group ν) (kv : Key ν × Val ν) (h : kv ∈ aggRow N q g) :
    (∃ n, kv.1 = .col n) ∨ (∃ c, kv = aggCell N g (.ph c.1 c.2) c) ∨
      ∃ c ∈ havingCalls q.having, kv = aggCell N g (.hv c.1 c.2) c := by
  simp only [aggRow, List.mem_cons, List.mem_append, List.mem_flatMap, List.mem_map] at h
  rcases h with rfl | ⟨it, _, h⟩ | ⟨c, hc, rfl⟩
  · exact .inl ⟨_, rfl⟩
  · rcases itemCells_cases N g it with ⟨f, a, _, e⟩ | ⟨_, e⟩
    · rw [e, List.mem_singleton] at h
      exact .inl ⟨_, congrArg Prod.fst h⟩
    · rw [e, List.mem_cons, List.mem_map] at h
      rcases h with rfl | ⟨c, _, rfl⟩
      · exact .inl ⟨_, rfl⟩
      · exact .inr (.inl ⟨c, rfl⟩)
  · exact .inr (.inr ⟨c, hc, rfl⟩)

theorem aggRow_ok (g : Group ν) : ∀ kv ∈ aggRow N q g, CellOK N g.rows kv := by
  intro kv hkv
  rcases mem_aggRow N q g kv hkv with ⟨n, h⟩ | ⟨c, rfl⟩ | ⟨c, _, rfl⟩
  · unfold CellOK
    rw [h]
    trivial
  · exact rfl
  · exact rfl

-- `get` and `postExprFor` compare keys, which contain numbers
variable [DecidableEq ν]

theorem get_col_visible (n : Name) (r : Row ν) : get (.col n) r = lookupIn n (visible r) := by
  induction r with
  | nil => rfl
  | cons kv r ih =>
    obtain ⟨k, v⟩ := kv
    cases k with
    | col m =>
      show (if Key.col m = Key.col n then some v else get (.col n) r)
        = if m = n then some v else lookupIn n (visible r)
      simp only [ih, Key.col.injEq]
    | ph f a => exact (if_neg nofun).trans ih
    | hv f a => exact (if_neg nofun).trans ih

theorem get_eq_some_of_unique (k : Key ν) (v : Val ν) (r : Row ν) (hu : ∀ w, (k, w) ∈ r → w = v)
    (hm : ∃ w, (k, w) ∈ r) : get k r = some v := by
  fun_induction get k r with
  | case1 => exact nomatch hm
  | case2 v' r => exact congrArg some (hu v' (List.mem_cons_self ..))  -- found
  | case3 k' v' r hk ih =>  -- further on
    obtain ⟨w, hw⟩ := hm
    refine ih (fun w' hw' => hu w' (List.mem_cons_of_mem _ hw')) ⟨w, ?_⟩
    exact (List.mem_cons.mp hw).resolve_left fun e => hk (Prod.mk.inj e).1.symm

theorem postExprFor_not_mem (items : List (Name × Expr ν)) (k : Key ν) (h : ∀ it ∈ items, Key.col it.1 ≠ k) :
    postExprFor items k = none := by
  induction items with
  | nil => rfl
  | cons it its ih =>
    rw [postExprFor, decide_eq_false (h it (List.mem_cons_self ..)), Bool.and_false]
    exact ih fun it' h' => h it' (List.mem_cons_of_mem _ h')

theorem postExprFor_mem (items : List (Name × Expr ν)) (hn : (items.map (·.1)).Nodup) (n : Name) (e : Expr ν)
    (hm : (n, e) ∈ items) :
    postExprFor items (.col n) = if isPlain e then none else some e := by
  induction items with
  | nil => cases hm
  | cons it its ih =>
    rw [List.map_cons, List.nodup_cons] at hn
    rw [postExprFor]
    rcases List.mem_cons.mp hm with rfl | hm'
    · cases hp : isPlain e
      · rw [decide_eq_true rfl]
        rfl
      · exact postExprFor_not_mem its (.col n) fun it' h' e' =>
          hn.1 (Key.col.inj e' ▸ List.mem_map_of_mem (f := (·.1)) h')
    · have hne : it.1 ≠ n := fun e1 => hn.1 (e1 ▸ List.mem_map_of_mem (f := (·.1)) hm')
      rw [decide_eq_false fun e' => hne (Key.col.inj e'), Bool.and_false]
      exact ih hn.2 hm'

theorem postCell_fst (r : Row ν) (kv : Key ν × Val ν) : (postCell N q r kv).1 = kv.1 := by
  unfold postCell
  cases postExprFor q.items kv.1 <;> rfl

theorem postCell_of_none (r : Row ν) (kv : Key ν × Val ν) (h : postExprFor q.items kv.1 = none) :
    postCell N q r kv = kv := by
  unfold postCell
  rw [h]

theorem postCell_of_ph_or_hv (r : Row ν) (kv : Key ν × Val ν) (hk : (isPh kv.1 || isHv kv.1) = true) :
    postCell N q r kv = kv := by
  refine postCell_of_none N q r kv (postExprFor_not_mem _ _ fun it _ e => ?_)
  rw [← e] at hk
  cases hk

theorem evalT_template (ar : Row ν) (rows : List (InRow ν)) (e : Expr ν)
    (hc : ∀ c ∈ calls e, get (.ph c.1 c.2) ar = some (optVal (aggEval N c.1 c.2 rows)))
    (hr : noRef e = true) :
    evalT N (template e) ar = Spec.exprVal N Spec.noEnv rows e := by
  induction e with
  | agg f a => exact (congrArg numOf (hc (f, a) (List.mem_singleton_self _))).trans (numOf_optVal _)
  | lit x => rfl
  | bin o l r ihl ihr =>
    obtain ⟨hl, hr'⟩ := List.forall_mem_append.mp hc
    rw [noRef, Bool.and_eq_true] at hr
    exact congr (congrArg (bin2 (applyOp N o)) (ihl hl hr.1)) (ihr hr' hr.2)
  | ref n => cases hr

theorem evalT_templateH (fr : Row ν) (rows : List (InRow ν)) (env : Name → Option (Val ν)) (e : Expr ν)
    (hc : ∀ c ∈ calls e, get (.hv c.1 c.2) fr = some (optVal (aggEval N c.1 c.2 rows)))
    (henv : ∀ n, get (.col n) fr = env n) :
    evalT N (templateH e) fr = Spec.exprVal N env rows e := by
  induction e with
  | agg f a => exact (congrArg numOf (hc (f, a) (List.mem_singleton_self _))).trans (numOf_optVal _)
  | lit x => rfl
  | bin o l r ihl ihr =>
    obtain ⟨hl, hr⟩ := List.forall_mem_append.mp hc
    exact congr (congrArg (bin2 (applyOp N o)) (ihl hl)) (ihr hr)
  | ref n => exact congrArg numOf (henv n)

theorem evalTP_templateP (fr : Row ν) (rows : List (InRow ν)) (env : Name → Option (Val ν)) (p : Pred ν)
    (hc : ∀ c ∈ predCalls p, get (.hv c.1 c.2) fr = some (optVal (aggEval N c.1 c.2 rows)))
    (henv : ∀ n, get (.col n) fr = env n) :
    evalTP N (templateP p) fr = Spec.predVal N env rows p := by
  induction p with
  | cmp c l r =>
    obtain ⟨hl, hr⟩ := List.forall_mem_append.mp hc
    exact congr (congrArg (cmp2 N c) (evalT_templateH N fr rows env l hl henv))
      (evalT_templateH N fr rows env r hr henv)
  | and p q ihp ihq =>
    obtain ⟨hl, hr⟩ := List.forall_mem_append.mp hc
    exact congr (congrArg and2 (ihp hl)) (ihq hr)
  | or p q ihp ihq =>
    obtain ⟨hl, hr⟩ := List.forall_mem_append.mp hc
    exact congr (congrArg or2 (ihp hl)) (ihq hr)

theorem ph_hv_invisible (r cells : Row ν) (h : ∀ kv ∈ cells, (isPh kv.1 || isHv kv.1) = true) :
    (cells.map (postCell N q r)).filterMap cellVisible = [] := by
  refine List.filterMap_eq_nil_iff.mpr fun kv hkv => ?_
  obtain ⟨⟨k, v⟩, h0, rfl⟩ := List.mem_map.mp hkv
  rw [postCell_of_ph_or_hv N q r _ (h _ h0)]
  cases k with
  | col n => cases h _ h0
  | ph f a => rfl
  | hv f a => rfl

theorem item_visible (hq : wf q = true) (g : Group ν) (it : Name × Expr ν) (hit : it ∈ q.items) :
    ((itemCells N g it).map (postCell N q (aggRow N q g))).filterMap cellVisible
      = [(it.1, optVal (Spec.exprVal N Spec.noEnv g.rows it.2))] := by
  have hpe := postExprFor_mem q.items (List.nodup_cons.mp (wf_names q hq)).2 it.1 it.2 hit
  rcases itemCells_cases N g it with ⟨f, a, e, hcells⟩ | ⟨hp, hcells⟩
  · rw [e] at hpe ⊢
    rw [hcells, List.map_singleton, postCell_of_none N q _ _ hpe]
    rfl
  · rw [hp, if_neg Bool.false_ne_true] at hpe
    -- every call of the item has its placeholder cell in the aggregator row
    have hev : evalT N (template it.2) (aggRow N q g) = Spec.exprVal N Spec.noEnv g.rows it.2 := by
      refine evalT_template N _ _ _ (fun c hc => ?_) (wf_noRef q hq it hit)
      refine get_eq_some_of_unique _ _ _ (fun w hw => aggRow_ok N q g _ hw) ⟨(aggCell N g (.ph c.1 c.2) c).2, ?_⟩
      refine List.mem_cons_of_mem _ (List.mem_append_left _ (List.mem_flatMap.mpr ⟨it, hit, ?_⟩))
      rw [hcells]
      exact List.mem_cons_of_mem _ (List.mem_map_of_mem hc)
    have h1 : cellVisible (postCell N q (aggRow N q g) (Key.col it.1, Val.null))
        = some (it.1, optVal (Spec.exprVal N Spec.noEnv g.rows it.2)) := by
      simp only [postCell, hpe, hev]
      rfl
    rw [hcells, List.map_cons, List.filterMap_cons_some h1,
      ph_hv_invisible N q _ _ (List.forall_mem_map.mpr fun _ _ => rfl)]

theorem flatMap_eq_map {α β : Type} (l : List α) (f : α → List β) (g : α → β) (h : ∀ a ∈ l, f a = [g a]) :
    l.flatMap f = l.map g := by
  rw [List.map_eq_flatMap, List.flatMap_def, List.flatMap_def, List.map_congr_left h]

theorem visible_fullRow (hq : wf q = true) (g : Group ν) :
    visible (fullRow N q g) = Spec.specRow N q g := by
  unfold fullRow postProcess
  have hg : q.gcol ∉ q.items.map (·.1) := (List.nodup_cons.mp (wf_names q hq)).1
  have h1 : postCell N q (aggRow N q g) (Key.col q.gcol, g.key) = (Key.col q.gcol, g.key) :=
    postCell_of_none N q _ _ (postExprFor_not_mem _ _ fun it hit e => hg (Key.col.inj e ▸ List.mem_map_of_mem hit))
  -- aggregator row = group cell :: item cells ++ HAVING cells; each item shows its one output cell, HAVING cells none
  rw [visible_filter _ (fun _ _ => rfl), visible_eq,
    congrArg (List.map _) (show aggRow N q g = _ :: (_ ++ _) from rfl), List.map_cons, List.map_append, h1,
    List.filterMap_cons_some (f := cellVisible) (b := (q.gcol, g.key)) rfl, List.filterMap_append,
    ph_hv_invisible N q _ (List.map _ (havingCalls q.having)) (List.forall_mem_map.mpr fun _ _ => rfl),
    List.append_nil, List.map_flatMap, List.filterMap_flatMap,
    flatMap_eq_map _ _ _ (item_visible N q hq g)]
  rfl

theorem mem_fullRow (g : Group ν) (kv : Key ν × Val ν) :
    kv ∈ fullRow N q g ↔ (∃ kv0 ∈ aggRow N q g, postCell N q (aggRow N q g) kv0 = kv) ∧ (!isPh kv.1) = true := by
  simp only [fullRow, postProcess, List.mem_filter, List.mem_map]

theorem get_hv_fullRow (g : Group ν) (c : AggFn × Arg ν) (hc : c ∈ havingCalls q.having) :
    get (.hv c.1 c.2) (fullRow N q g) = some (optVal (aggEval N c.1 c.2 g.rows)) := by
  refine get_eq_some_of_unique _ _ _ (fun w hw => ?_)
    ⟨_, (mem_fullRow N q g _).mpr ⟨⟨aggCell N g (.hv c.1 c.2) c, ?_, postCell_of_ph_or_hv N q _ _ rfl⟩, rfl⟩⟩
  · -- a hidden cell of the result row is the same cell of the aggregator row
    obtain ⟨⟨kv0, h0, e⟩, _⟩ := (mem_fullRow N q g _).mp hw
    have hk : kv0.1 = .hv c.1 c.2 := (postCell_fst N q _ kv0).symm.trans (congrArg Prod.fst e)
    have hid : (isPh kv0.1 || isHv kv0.1) = true := by
      rw [hk]
      rfl
    rw [postCell_of_ph_or_hv N q _ kv0 hid] at e
    subst e
    exact aggRow_ok N q g _ h0
  · exact List.mem_cons_of_mem _ (List.mem_append_right _ (List.mem_map_of_mem hc))

theorem havingKeep_fullRow (hq : wf q = true) (g : Group ν) (p : Pred ν) (hp : q.having = some p) :
    havingKeep N p (fullRow N q g) = Spec.specHaving N q g := by
  unfold havingKeep Spec.specHaving
  rw [hp]
  simp only
  rw [evalTP_templateP N (fullRow N q g) g.rows (fun n => lookupIn n (Spec.specRow N q g)) p]
  · exact fun c hc => get_hv_fullRow N q g c (hp ▸ hc)
  · intro n
    rw [get_col_visible, visible_fullRow N q hq g]

theorem fullRow_noPh (g : Group ν) : ∀ kv ∈ fullRow N q g, isPh kv.1 = false :=
  fun kv hkv => (Bool.not_eq_true' _).mp ((mem_fullRow N q g kv).mp hkv).2

theorem fullRow_noHv_of_having_none (g : Group ν) (hh : q.having = none) :
    ∀ kv ∈ fullRow N q g, isHv kv.1 = false := by
  intro kv hkv
  obtain ⟨⟨kv0, h0, rfl⟩, _⟩ := (mem_fullRow N q g kv).mp hkv
  rw [postCell_fst]
  rcases mem_aggRow N q g kv0 h0 with ⟨n, h⟩ | ⟨c, rfl⟩ | ⟨c, hc, rfl⟩
  · rw [h]
    rfl
  · rfl
  · rw [hh] at hc
    cases hc

theorem havingStage_allVisible (rows : List (Row ν))
    (hrows : ∀ r ∈ rows, ∃ g, r = fullRow N q g) :
    ∀ r ∈ havingStage N q.having rows, allVisible r = true := by
  intro r hr
  rw [allVisible_eq, List.all_eq_true]
  cases hh : q.having with
  | none =>
    rw [hh] at hr
    obtain ⟨g, rfl⟩ := hrows r hr
    intro kv hkv
    rw [fullRow_noPh N q g kv hkv, fullRow_noHv_of_having_none N q g hh kv hkv]
    rfl
  | some p =>
    rw [hh] at hr
    simp only [havingStage, List.mem_map, List.mem_filter] at hr
    obtain ⟨r0, ⟨hr0, _⟩, rfl⟩ := hr
    obtain ⟨g, rfl⟩ := hrows r0 hr0
    intro kv hkv
    rw [stripHidden, List.mem_filter] at hkv
    rw [fullRow_noPh N q g kv hkv.1, hkv.2]
    rfl

end PostAgg
