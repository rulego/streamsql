/-
Paths through a state table, compiled or not, and `closure` as ε-reachability: what it returns is
ε-reachable; when every out-edge is an index of the table it is closed under ε-steps, so the fuel
`|t| + 1` suffices.
-/
import SsqlVerif.Model.CepNfa
set_option autoImplicit false

namespace Cep

def EpsStep (T : Tbl) (i j : Nat) : Prop := ∃ a b, T[i]? = some (Node.eps a b) ∧ (a = some j ∨ b = some j)

/-- an `n`-step path from state `i` to state `e` reading `w` -/
inductive PathN (T : Tbl) : Nat → Nat → List Sym → Nat → Prop
  | refl (i : Nat) : PathN T 0 i [] i
  | eps {n i j e : Nat} {w : List Sym} : EpsStep T i j → PathN T n j w e → PathN T (n+1) i w e
  | mtch {n i j e : Nat} {c : Sym} {w : List Sym} : T[i]? = some (Node.mtch c j) → PathN T n j w e → PathN T (n+1) i (c :: w) e

theorem PathN.trans {T : Tbl} {n m i j e : Nat} {u v : List Sym}
    (h1 : PathN T n i u j) (h2 : PathN T m j v e) : PathN T (n + m) i (u ++ v) e := by
  induction h1 with
  | refl i => simpa using h2
  | eps hs _ ih => simpa [Nat.add_right_comm] using PathN.eps hs (ih h2)
  | mtch hs _ ih => simpa [Nat.add_right_comm] using PathN.mtch hs (ih h2)

theorem PathN.cases_zero {T : Tbl} {i e : Nat} {w : List Sym} (h : PathN T 0 i w e) : w = [] ∧ e = i := by
  cases h
  exact ⟨rfl, rfl⟩

theorem PathN.eps_inv {T : Tbl} {n i e : Nat} {w : List Sym} {a b : Option Nat} (hp : PathN T n i w e)
    (hn : T[i]? = some (Node.eps a b)) (he : e ≠ i) :
    ∃ m j, n = m + 1 ∧ (a = some j ∨ b = some j) ∧ PathN T m j w e := by
  cases hp with
  | refl => exact absurd rfl he
  | eps hs hr =>
    obtain ⟨x, y, hx, hor⟩ := hs
    cases hn.symm.trans hx
    exact ⟨_, _, rfl, hor, hr⟩
  | mtch hs _ => cases hn.symm.trans hs

theorem PathN.accept_inv {T : Tbl} {n e : Nat} {w : List Sym} (hp : PathN T n 0 w e)
    (h0 : T[0]? = some Node.accept) : w = [] ∧ e = 0 := by
  cases hp with
  | refl => exact ⟨rfl, rfl⟩
  | eps hs _ =>
    obtain ⟨a, b, hx, _⟩ := hs
    cases h0.symm.trans hx
  | mtch hs _ => cases h0.symm.trans hs

def nodeOuts : Node → List Nat
  | .eps a b => a.toList ++ b.toList
  | .mtch _ o => [o]
  | .accept => []

theorem mem_nodeOuts_eps {a b : Option Nat} {j : Nat} : j ∈ nodeOuts (.eps a b) ↔ a = some j ∨ b = some j := by
  simp [nodeOuts]

def TblWF (T : Tbl) : Prop := ∀ (i : Nat) (nd : Node), T[i]? = some nd → ∀ j ∈ nodeOuts nd, j < T.length

def Reach (T : Tbl) (i q : Nat) : Prop := ∃ n, PathN T n i [] q

theorem pushNew_cases (o : Option Nat) (acc : List Nat × List Nat) :
    (pushNew o acc = acc ∧ ∀ j, o = some j → j ∈ acc.1) ∨
      ∃ j, o = some j ∧ j ∉ acc.1 ∧ pushNew o acc = (acc.1 ++ [j], j :: acc.2) := by
  fun_cases pushNew o acc with
  | case1 => exact .inl ⟨rfl, nofun⟩ -- no out-edge
  | case2 j h => -- already marked
    refine .inl ⟨rfl, fun _ hj => ?_⟩
    cases hj
    simpa using h
  | case3 j h => exact .inr ⟨j, rfl, by simpa using h, rfl⟩ -- new state

theorem mem_pushNew_seen {o : Option Nat} {acc : List Nat × List Nat} {x : Nat} :
    x ∈ (pushNew o acc).1 ↔ x ∈ acc.1 ∨ o = some x := by
  rcases pushNew_cases o acc with ⟨e, h⟩ | ⟨j, rfl, _, e⟩
  · rw [e]
    exact ⟨.inl, fun hx => hx.elim id (h x)⟩
  · rw [e]
    simp [eq_comm]

theorem mem_pushNew_stack {o : Option Nat} {acc : List Nat × List Nat} {x : Nat} :
    x ∈ (pushNew o acc).2 ↔ x ∈ acc.2 ∨ (o = some x ∧ x ∉ acc.1) := by
  rcases pushNew_cases o acc with ⟨e, h⟩ | ⟨j, rfl, hj, e⟩
  · rw [e]
    exact ⟨.inl, fun hx => hx.elim id fun hx => absurd (h x hx.1) hx.2⟩
  · rw [e, List.mem_cons]
    constructor
    · rintro (rfl | hx)
      · exact .inr ⟨rfl, hj⟩
      · exact .inl hx
    · rintro (hx | ⟨hx, _⟩)
      · exact .inr hx
      · exact .inl (Option.some.inj hx).symm

theorem closureLoop_sound (T : Tbl) (i fuel : Nat) (stack seen : List Nat) (hs : ∀ x ∈ seen, Reach T i x)
    (hst : ∀ x ∈ stack, Reach T i x) : ∀ q ∈ closureLoop T fuel stack seen, Reach T i q := by
  fun_induction closureLoop T fuel stack seen with
  | case1 => exact hs -- no fuel
  | case2 => exact hs -- stack empty
  | case3 f s st seen a b hnode ih => -- ε node
    obtain ⟨n, hp⟩ := hst s (List.mem_cons_self ..)
    have hstep : ∀ x, (a = some x ∨ b = some x) → Reach T i x :=
      fun x hx => ⟨_, hp.trans (.eps ⟨a, b, hnode, hx⟩ (.refl x))⟩
    refine ih (fun x hx => ?_) (fun x hx => ?_)
    · simp only [mem_pushNew_seen] at hx
      rcases hx with (hx | hx) | hx
      · exact hs x hx
      · exact hstep x (.inl hx)
      · exact hstep x (.inr hx)
    · simp only [mem_pushNew_stack] at hx
      rcases hx with (hx | hx) | hx
      · exact hst x (List.mem_cons_of_mem _ hx)
      · exact hstep x (.inl hx.1)
      · exact hstep x (.inr hx.1)
  | case4 f s st seen hne ih => exact ih hs fun x hx => hst x (List.mem_cons_of_mem _ hx) -- other node

theorem closure_sound (T : Tbl) (i q : Nat) (hq : q ∈ closure T i) : Reach T i q :=
  have h : ∀ x ∈ [i], Reach T i x := fun x hx => by
    rw [List.mem_singleton.1 hx]
    exact ⟨0, .refl i⟩
  closureLoop_sound T i _ [i] [i] h h q hq

def SClosed (T : Tbl) (S : List Nat) : Prop := ∀ x ∈ S, ∀ y, EpsStep T x y → y ∈ S

theorem SClosed.path {T : Tbl} {S : List Nat} (h : SClosed T S) {n i j : Nat} (hp : PathN T n i [] j) (hi : i ∈ S) :
    j ∈ S := by
  generalize hw : ([] : List Sym) = w at hp
  induction hp with
  | refl => exact hi
  | eps hs _ ih => exact ih (h _ hi _ hs) hw
  | mtch => cases hw

/-- the part of the loop state the fuel argument looks at -/
structure Marks (T : Tbl) (acc : List Nat × List Nat) : Prop where
  nodup : acc.1.Nodup
  bound : ∀ x ∈ acc.1, x < T.length
  sub : ∀ x ∈ acc.2, x ∈ acc.1

/-- second part: no more iterations needed than before -/
theorem pushNew_marks {T : Tbl} {o : Option Nat} {acc : List Nat × List Nat} (h : Marks T acc)
    (ho : ∀ j, o = some j → j < T.length) : Marks T (pushNew o acc) ∧
      (pushNew o acc).2.length + (T.length - (pushNew o acc).1.length) ≤ acc.2.length + (T.length - acc.1.length) := by
  rcases pushNew_cases o acc with ⟨e, _⟩ | ⟨j, rfl, hj, e⟩ <;> rw [e]
  · exact ⟨h, Nat.le_refl _⟩
  · have hm : Marks T (acc.1 ++ [j], j :: acc.2) :=
      { nodup := List.nodup_append.2 ⟨h.nodup, by simp,
          fun a ha b hb hab => hj (List.mem_singleton.1 hb ▸ hab ▸ ha)⟩
        bound := fun x hx => (List.mem_append.1 hx).elim (h.bound x) fun hx => List.mem_singleton.1 hx ▸ ho j rfl
        sub := fun x hx => (List.mem_cons.1 hx).elim (fun hx => List.mem_append_right _ (List.mem_singleton.2 hx))
          fun hx => List.mem_append_left _ (h.sub x hx) }
    -- distinct indices of the table: at most `|T|` of them
    have := hm.nodup.length_le_of_subset (l₂ := List.range T.length) (fun x hx => List.mem_range.2 (hm.bound x hx))
    simp only [List.length_append, List.length_range, List.length_cons] at this ⊢
    exact ⟨hm, by omega⟩

/-- Invariant of the loop: the marks are in order (`Marks`), and a marked state that is no longer on
the stack has all its ε-successors marked.  Measure: every iteration pops one state, and every push
marks a new index of the table, so `|stack| + (|T| − |seen|)` iterations are enough.  When the
stack is empty the invariant says that `seen` is closed. -/
theorem closureLoop_closed (T : Tbl) (hwf : TblWF T) (fuel : Nat) (stack seen : List Nat)
    (hm : Marks T (seen, stack)) (hcl : ∀ x ∈ seen, x ∉ stack → ∀ y, EpsStep T x y → y ∈ seen)
    (hf : stack.length + (T.length - seen.length) ≤ fuel) :
    (∀ x ∈ seen, x ∈ closureLoop T fuel stack seen) ∧ SClosed T (closureLoop T fuel stack seen) := by
  fun_induction closureLoop T fuel stack seen with
  | case1 stack seen => -- no fuel
    obtain rfl : stack = [] := List.eq_nil_of_length_eq_zero (Nat.le_zero.1 (Nat.le_trans (Nat.le_add_right ..) hf))
    exact ⟨fun _ h => h, fun x hx => hcl x hx nofun⟩
  | case2 _ seen => exact ⟨fun _ h => h, fun x hx => hcl x hx nofun⟩ -- stack empty
  | case3 f s st seen a b hnode ih => -- ε node
    have hm0 : Marks T (seen, st) := ⟨hm.nodup, hm.bound, fun x hx => hm.sub x (List.mem_cons_of_mem _ hx)⟩
    simp only [List.length_cons] at hf
    have hab : ∀ j, (a = some j ∨ b = some j) → j < T.length :=
      fun j hj => hwf s _ hnode j (mem_nodeOuts_eps.2 hj)
    obtain ⟨m1, l1⟩ := pushNew_marks (o := a) hm0 (fun j hj => hab j (.inl hj))
    obtain ⟨m2, l2⟩ := pushNew_marks (o := b) m1 (fun j hj => hab j (.inr hj))
    dsimp only at l1
    refine (fun h => ⟨fun x hx => h.1 x (mem_pushNew_seen.2 (.inl (mem_pushNew_seen.2 (.inl hx)))), h.2⟩)
      (ih m2 (fun x hx hxs y hy => ?_) (by omega))
    simp only [mem_pushNew_seen, mem_pushNew_stack, not_or, not_and, Classical.not_not] at hx hxs ⊢
    by_cases hxs' : x = s
    · subst hxs'
      obtain ⟨a', b', hn', hor⟩ := hy
      cases hnode.symm.trans hn'
      exact hor.elim (fun h => .inl (.inr h)) .inr
    · have hxseen : x ∈ seen := by
        rcases hx with (h | h) | h
        · exact h
        · exact hxs.1.2 h
        · exact Classical.byContradiction fun hs => hs (hxs.1.2 (hxs.2 h hs))
      exact .inl (.inl (hcl x hxseen (fun hh => (List.mem_cons.1 hh).elim hxs' hxs.1.1) y hy))
  | case4 f s st seen hne ih => -- other node
    have hm0 : Marks T (seen, st) := ⟨hm.nodup, hm.bound, fun x hx => hm.sub x (List.mem_cons_of_mem _ hx)⟩
    simp only [List.length_cons] at hf
    refine ih hm0 (fun x hx hxs y hy => ?_) (by omega)
    refine hcl x hx (fun hh => ?_) y hy
    rcases List.mem_cons.1 hh with rfl | h
    · obtain ⟨a', b', hn', _⟩ := hy
      exact hne a' b' hn'
    · exact hxs h

theorem closure_closed (T : Tbl) (hwf : TblWF T) (i : Nat) (hi : i < T.length) :
    i ∈ closure T i ∧ SClosed T (closure T i) := by
  have hfuel : [i].length + (T.length - [i].length) ≤ T.length + 1 := by
    simp
    omega
  have h := closureLoop_closed T hwf (T.length + 1) [i] [i]
    ⟨by simp, fun x hx => List.mem_singleton.1 hx ▸ hi, fun x hx => hx⟩ (fun x hx hxs => absurd hx hxs) hfuel
  exact ⟨h.1 i (by simp), h.2⟩

theorem closure_complete (T : Tbl) (hwf : TblWF T) (i : Nat) (hi : i < T.length) {n q : Nat}
    (hp : PathN T n i [] q) : q ∈ closure T i :=
  (closure_closed T hwf i hi).2.path hp (closure_closed T hwf i hi).1

theorem path_cons_split {T : Tbl} : ∀ {n i e : Nat} {w' : List Sym}, PathN T n i w' e → ∀ (a : Sym) (w : List Sym), w' = a :: w →
    ∃ j o n1 n2, PathN T n1 i [] j ∧ T[j]? = some (Node.mtch a o) ∧ PathN T n2 o w e := by
  intro n i e w' hp
  induction hp with
  | refl =>
    intro a w h
    cases h
  | eps hs _ ih =>
    intro a w h
    obtain ⟨j, o, n1, n2, p1, hn, p2⟩ := ih a w h
    exact ⟨j, o, n1 + 1, n2, PathN.eps hs p1, hn, p2⟩
  | mtch hs hrest _ =>
    intro a w h
    cases h
    exact ⟨_, _, 0, _, PathN.refl _, hs, hrest⟩

end Cep
