/-
C14 — analytic functions are sequential per partition and isolated across partitions.
All statements are for every number type `ν` with the operations of `NumOps` (no arithmetic
law is used: sums are folds in arrival order, exactly the float64 operations the code performs;
the driver instantiates `ν := Float`), every history, every interleaving, every key set.
-/
import SsqlVerif.Proofs.AnalyticQuery
import SsqlVerif.Generated.Facts
set_option autoImplicit false

namespace C14
open Analytic Analytic.Spec

section functions
variable {ν : Type} [NumOps ν]

-- the instance `[NumOps ν]` is not used by this statement
set_option linter.unusedSectionVars false in
/-- `lagState` keeps only the last `offset` recorded values; nothing is lost by that: the value
is the `offset`-th most recent earlier value over the WHOLE history of the partition (NULLs
skipped under `ignoreNull`), else the row's default.  `n` is the offset argument as written
(`effOffset`: non-positive ⇒ 1, as the code does). -/
theorem lag_bounded_history_eq_spec (n : Int) (ign : Bool) (hist : List (LagIn ν)) (cur : LagIn ν) :
    (lagMachine (effOffset n) ign).out hist cur = lagSpec (effOffset n) ign hist cur :=
  lag_out (effOffset n) (effOffset_pos n) ign hist cur

-- the instance `[NumOps ν]` is not used by this statement
set_option linter.unusedSectionVars false in
theorem latest_eq_spec (hist : List (LagIn ν)) (cur : LagIn ν) :
    (latestMachine (ν := ν)).out hist cur = latestSpec hist cur :=
  latest_out hist cur

theorem changed_col_eq_spec (ign : Bool) (hist : List (Val ν)) (v : Val ν) :
    (changedColMachine ign).out hist v = changedColSpec ign hist v :=
  changedCol_out ign hist v

/-- `n` = number of column arguments, fixed by the SQL text -/
theorem changed_cols_eq_spec (ign : Bool) (n : Nat) (hist : List (List (Val ν))) (cur : List (Val ν))
    (hw : ∀ r ∈ hist, r.length = n) (hc : cur.length = n) :
    (changedColsMachine ign).out hist cur = changedColsSpec ign hist cur :=
  changedCols_out ign n hist cur hw hc

theorem had_changed_eq_spec (ign : Bool) (n : Nat) (hist : List (List (Val ν))) (cur : List (Val ν))
    (hw : ∀ r ∈ hist, r.length = n) (hc : cur.length = n) :
    (hadChangedMachine ign).out hist cur = hadChangedSpec ign hist cur :=
  hadChanged_out ign n hist cur hw hc

/-- all five accumulators, with and without start/reset arguments: the aggregate over the rows
after the last reset, from the first start on -/
theorem acc_eq_spec (kind : AccKind) (hasStart hasReset : Bool) (hist : List (AccIn ν)) (cur : AccIn ν) :
    (accMachine kind hasStart hasReset).out hist cur = accSpec kind hasStart hasReset hist cur :=
  acc_out kind hasStart hasReset hist cur

end functions

/-- The partition key encoding is injective: for all lists of byte strings (fragments), and hence
for all typed key tuples — `("a|","b")` and `("a","|b")`, `int 1` and `"1"`, nil and `"nil"` are
different partitions. -/
theorem partitionKey_injective :
    (∀ xs ys : List (List Char), encAll xs = encAll ys → xs = ys) ∧
    (∀ xs ys : List KVal, partitionKey xs = partitionKey ys → xs = ys) :=
  ⟨encAll_injective, Analytic.partitionKey_injective⟩

section engine
variable {K σ α β : Type} [DecidableEq K]

/-- While the distinct live keys fit the cap the LRU never evicts: the engine is a total map —
every partition's state is the machine run over ALL its live rows, its cached value the last one. -/
theorem lru_no_evict_of_le_cap (cap : Nat) (m : Machine σ α β) (rows : List (FRow K α))
    (hcap : withinCap cap rows = true) (k : K) :
    absSt m.init (engState cap m (Eng.empty : Eng K σ β) rows) k = m.run m.init (liveArgs (partRows k rows)) ∧
    absLast (engState cap m (Eng.empty : Eng K σ β) rows) k = lastOut m (partRows k rows) :=
  ⟨(engRun_fieldSpec_inv cap m rows hcap).2.st k, (engRun_fieldSpec_inv cap m rows hcap).2.last k⟩

/-- Hence every row's value is the definition applied to the earlier live rows of its own
partition (`f` = any definition the machine implements). -/
theorem engine_eq_spec (cap : Nat) (m : Machine σ α β) (f : List α → α → β)
    (hm : ∀ h a, m.out h a = f h a) (rows : List (FRow K α)) (hcap : withinCap cap rows = true) :
    engRun cap m (Eng.empty : Eng K σ β) rows = fieldSpec f rows :=
  (funext fun h => funext (hm h) : m.out = f) ▸ (engRun_fieldSpec_inv cap m rows hcap).1

-- `hc` is not needed: `Analytic.engRun_isolation` holds for every `cap`
set_option linter.unusedVariables false in
/-- Isolation: the outputs on the rows of partition `k` inside ANY interleaving equal the outputs
of running the rows of `k` alone. -/
theorem partition_isolation (cap : Nat) (hc : 1 ≤ cap) (m : Machine σ α β) (rows : List (FRow K α))
    (hcap : withinCap cap rows = true) (k : K) :
    restrict k rows (engRun cap m (Eng.empty : Eng K σ β) rows) =
      engRun cap m (Eng.empty : Eng K σ β) (partRows k rows) :=
  engRun_isolation cap m rows hcap k

-- `hpos` is not needed: it follows from `hfull` and `hback`
set_option linter.unusedVariables false in
/-- What "within the configured cap" excludes: a live row of a new key arriving at a full engine
evicts the least recently used partition, which restarts from the initial state, its cached
value forgotten. -/
theorem lru_evict_resets (cap : Nat) (m : Machine σ α β) (e : Eng K σ β) (k kb : K) (sb : σ) (a : α)
    (hnd : (keysOf e).Nodup) (hfull : e.lru.length = cap) (hpos : 1 ≤ cap)
    (hnew : k ∉ keysOf e) (hback : e.lru.getLast? = some (kb, sb)) :
    absSt m.init (evalLive cap m e k a).1 kb = m.init ∧ absLast (evalLive cap m e k a).1 kb = none :=
  evict_resets cap m e k kb sb a hnd hfull hnew hback

/-- WHEN gating: a row whose WHEN fails touches nothing (neither state nor LRU order) and repeats
the cached value of its partition. -/
theorem when_gating (cap : Nat) (m : Machine σ α β) (e : Eng K σ β) (k : K) (a : α) :
    evalField cap m e k false a = (e, absLast e k) := rfl

end engine

section whereOrder
variable {S R O : Type}

/-- The rows that count: with a WHERE free of analytic calls the analytic engine sees exactly the
passing rows (and exactly those are emitted); with analytic calls inside WHERE every row is
evaluated first and emission is decided on the row's own analytic values. -/
theorem where_order (plain : R → Bool) (post : R → O → Bool) (A : Machine S R O) (rows : List R) (s : S) :
    ((runRows false plain post A s rows).filterMap id = Spec.whereFreeSpec plain (A.outs s) rows ∧
     (runRows false plain post A s rows).map Option.isSome = rows.map plain) ∧
    runRows true plain post A s rows = Spec.whereAnalyticSpec post (A.outs s) rows :=
  ⟨runRows_free plain post A rows s, runRows_uses plain post A rows s⟩

end whereOrder

section query
variable {ν : Type} [NumOps ν]

/-- End to end for one field of a query: the engine instance the model runs (keys = encoded
partition strings, state = the field's call machines, wrapper applied) yields, for every row, the
field's definition over the earlier rows of the same typed-key partition, while the live
partitions fit the cap. -/
theorem field_eq_spec (cap : Nat) (f : Field ν) (rows : List (Row ν))
    (hcap : withinCap cap (fieldRows f rows) = true) :
    engRun cap (fieldMachine f) (Eng.empty : FEng ν) (modelRows f rows) =
      fieldSpec (fieldFn f) (fieldRows f rows) := by
  rw [modelRows_eq, engine_eq_spec cap (fieldMachine f) (fieldFn f) (fieldMachine_out f) _
    ((withinCap_reKey cap partitionKey Analytic.partitionKey_injective _).trans hcap)]
  exact fieldSpecFrom_reKey (fieldFn f) partitionKey Analytic.partitionKey_injective (fieldRows f rows) []

/-- The fields of a query (SELECT fields and the WHERE call) do not interfere: over ANY row
sequence fed to the query's analytic engine (all rows, or those passing an analytic-free WHERE),
column `i` of the results is `fieldSpec` of field `i`, while that field's live partitions fit the cap. -/
theorem query_column_eq_spec (q : Query ν) (i : Nat) (f : Field ν) (hf : q.allFields[i]? = some f)
    (rows : List (Row ν)) (hcap : withinCap (effCap q.cap) (fieldRows f rows) = true) :
    (q.machine.outs q.machine.init rows).map (fun o => o.getD i none) =
      fieldSpec (fieldFn f) (fieldRows f rows) := by
  rw [query_column q i f hf rows, field_eq_spec _ f rows hcap]

-- the instance `[NumOps ν]` is not used by this statement
set_option linter.unusedSectionVars false in
/-- the oracle applies the definition exactly where the theorems' hypothesis holds: its
cap flags are `withinCap` of every prefix -/
theorem oracle_cap_flags (cap : Nat) (rows : List (FRow (List KVal) (Row ν))) :
    capFlags cap rows = prefixFlags cap [] rows :=
  (capFlags_eq_foldl cap rows).trans (capFold_spec cap rows [] ([], []) ⟨List.nodup_nil, fun _ => Iff.rfl⟩)

end query

instance : NumOps Int where
  zero := 0
  add := (· + ·)
  sub := (· - ·)
  div := (· / ·)
  lt := fun a b => decide (a < b)
  beq := fun a b => a == b
  ofInt := id

def li (v : Int) : LagIn Int := { val := .int v, dflt := .int (-1) }
def ln : LagIn Int := { val := .null, dflt := .int (-1) }

-- lag 2 over 5, NULL, 7, 9 (NULL skipped): 7; with one value only, the default
example : lagSpec (ν := Int) (effOffset 2) true [li 5, ln, li 7, li 9] (li 0) = .int 7 := by decide +kernel
example : (lagMachine (ν := Int) (effOffset 2) true).out [li 5, ln, li 7, li 9] (li 0) = .int 7 := by decide +kernel
example : (lagMachine (ν := Int) (effOffset 2) true).out [li 5] (li 0) = .int (-1) := by decide +kernel
example : effOffset 0 = 1 ∧ effOffset (-3) = 1 ∧ effOffset 3 = 3 := by decide +kernel
example : (latestMachine (ν := Int)).out [li 5, ln] ln = .int 5 := by decide +kernel
example : (changedColMachine (ν := Int) true).out [.int 1, .null] (.int 1) = .null := by decide +kernel
example : (changedColMachine (ν := Int) false).out [.int 1, .null] (.int 1) = .int 1 := by decide +kernel
example : (changedColsMachine (ν := Int) true).out [[.int 1, .int 2]] [.int 1, .int 3] = [none, some (.int 3)] := by
  decide +kernel
example : (hadChangedMachine (ν := Int) true).out [[.int 1, .int 2]] [.null, .int 2] = false := by decide +kernel
example : (hadChangedMachine (ν := Int) false).out [[.int 1, .int 2]] [.null, .int 2] = true := by decide +kernel
-- acc_sum(v, start, reset): 1 (not started) 2 (start) 3 | reset | 4 (not started) 5 (start)
def ai (v : Int) (st rs : Bool) : AccIn Int := { val := .int v, start := st, reset := rs }
example : (accMachine (ν := Int) .sum true true).out [ai 1 false false, ai 2 true false] (ai 3 false false) = .num 5 := by
  decide +kernel
example : (accMachine (ν := Int) .sum true true).out
    [ai 1 false false, ai 2 true false, ai 3 false false, ai 0 true true, ai 4 false false] (ai 5 true false) = .num 5 := by
  decide +kernel
example : accSpec (ν := Int) .max false false [ai 4 false false, ai 9 false false] (ai 2 false false) = .num 9 := by
  decide +kernel
example : accSpec (ν := Int) .avg false false [] { val := .str ['x'], start := false, reset := false } = .null := by
  decide +kernel
-- keys a naive `|`-join would merge
example : partitionKey [.str ['a','|'], .str ['b']] ≠ partitionKey [.str ['a'], .str ['|','b']] := by decide +kernel
example : partitionKey [.int 1] ≠ partitionKey [.str ['1']] := by decide +kernel
-- partition 0 = 1,2 ; partition 1 = 10 in between; cap 2
def fr (k : Nat) (live : Bool) (v : Int) : FRow Nat (LagIn Int) := { key := k, live := live, arg := li v }
example : engRun 2 (lagMachine (ν := Int) 1 true) Eng.empty [fr 0 true 1, fr 1 true 10, fr 0 true 2, fr 0 false 3, fr 1 true 11]
    = [some (.int (-1)), some (.int (-1)), some (.int 1), some (.int 1), some (.int 10)] := by decide +kernel
example : withinCap 2 [fr 0 true 1, fr 1 true 10, fr 0 true 2] = true := by decide +kernel
-- cap 1: partition 0 is evicted and restarts
example : engRun 1 (lagMachine (ν := Int) 1 true) Eng.empty [fr 0 true 1, fr 1 true 10, fr 0 true 2]
    = [some (.int (-1)), some (.int (-1)), some (.int (-1))] := by decide +kernel
example : withinCap 1 [fr 0 true 1, fr 1 true 10, fr 0 true 2] = false := by decide +kernel

-- a full engine (cap 2, key 0 at the back), new key 2 arrives: key 0 restarts
def eFull : Eng Nat (List (Val Int)) (Val Int) :=
  { lru := [(1, [.int 5]), (0, [.int 1])], last := [(0, .int 9), (1, .int 4)] }
example : (keysOf eFull).Nodup ∧ eFull.lru.length = 2 ∧ 2 ∉ keysOf eFull ∧ eFull.lru.getLast? = some (0, [.int 1]) := by
  decide +kernel
example : absSt [] (evalLive 2 (lagMachine (ν := Int) 1 true) eFull 2 (li 7)).1 0 = [] ∧
    absLast (evalLive 2 (lagMachine (ν := Int) 1 true) eFull 2 (li 7)).1 0 = none ∧
    absLast (evalLive 2 (lagMachine (ν := Int) 1 true) eFull 2 (li 7)).1 1 = some (.int 4) := by decide +kernel
-- WHEN fails: the cached value of the partition
example : (evalField 2 (lagMachine (ν := Int) 1 true) eFull 0 false (li 7)).2 = some (.int 9) := by decide +kernel
-- a counting machine: rows failing a plain WHERE do not count; with analytic WHERE all count
def cnt : Machine Nat Int Nat := { init := 0, step := fun s _ => (s + 1, s + 1) }
example : runRows false (fun r => decide (r > 0)) (fun _ _ => true) cnt 0 [5, -1, 7] = [some 1, none, some 2] := by decide +kernel
example : runRows true (fun _ => true) (fun r o => decide (r > 0) && decide (o > 1)) cnt 0 [5, -1, 7] = [none, none, some 3] := by
  decide +kernel
-- `v - lag(v) OVER (PARTITION BY k1 WHEN g > 0)`, keys "a|" and "a"
def fld : Field Int :=
  { calls := [.lag 0 none none none], wrap := .colMinus 0, part := some [0], when := some { col := 2, cmp := .gt, c := 0 } }
def qrow (k : List Char) (v g : Int) : Row Int :=
  { keys := [.str k, .null], cells := [.present (.int v), .missing, .present (.int g)] }
def qrows : List (Row Int) := [qrow ['a','|'] 10 1, qrow ['a'] 100 1, qrow ['a','|'] 13 1, qrow ['a'] 7 0, qrow ['a','|'] 20 1]
example : withinCap 2 (fieldRows fld qrows) = true := by decide +kernel
example : fieldSpec (fieldFn fld) (fieldRows fld qrows) =
    [some (.one .null), some (.one .null), some (.one (.int 3)), some (.one .null), some (.one (.int 7))] := by decide +kernel
example : engRun 2 (fieldMachine fld) (Eng.empty : FEng Int) (modelRows fld qrows) =
    [some (.one .null), some (.one .null), some (.one (.int 3)), some (.one .null), some (.one (.int 7))] := by decide +kernel

end C14

/-! Tie to the source constants (`Generated/Facts.lean` is extracted from /repo).  `[0, 4, 0, 10]` in
`partitionKey`: the test for an empty PARTITION BY, the 4-byte buffer of the length prefix, its reset, base 10.
The tags `int64|`, `int32|`, `%T|%v` belong to Go types that `KVal` does not have (its `int` is Go's `int`). -/
theorem C14.facts_constants :
    Facts.stream_defaultMaxPartitions = (Analytic.defaultCap : Int) ∧
    Facts.stream_typeKey_strlits =
      ["nil|", "string|", "int|", "int64|", "int32|", "float64|", "g", "bool|true", "bool|false", "%T|%v"] ∧
    Facts.stream_analyticFieldEngine_partitionKey_strlits = ["", ":", "|"] ∧
    Facts.stream_analyticFieldEngine_partitionKey_intlits = [0, 4, 0, 10] ∧
    Facts.functions_accState_result_strlits = ["acc_sum", "acc_count", "acc_avg", "acc_max", "acc_min"] := by decide +kernel
