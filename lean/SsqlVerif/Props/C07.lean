/-
C07 — post-aggregation clauses apply in relational order to each emitted batch.

`N : Num ν` is an arbitrary interpretation of the number operations: the arithmetic statements hold
for every meaning of `+ - * /`, `<`, `==` (exact arithmetic and binary64 alike); the sorting statements
need `lt` to be a strict weak order (`NumOrd`: exact arithmetic, binary64 without NaN).
`wf q`: output column names pairwise different and different from the group column, SELECT items
without column references.
-/
import SsqlVerif.Proofs.PostAggPipeline
import SsqlVerif.Generated.Facts
set_option autoImplicit false

namespace C07
open PostAgg

section
variable {ν : Type} (N : Num ν) [DecidableEq ν]

/-- A SELECT item over aggregates — plain call, `agg op literal`, `agg op agg`, nested forms, aggregates
over expression arguments — is delivered as that arithmetic on the group's aggregate values: the visible
part of the group's result row (templates evaluated, placeholders deleted) *is* the relational row. -/
theorem select_arith_on_aggs (q : Query ν) (hq : wf q = true) (g : Group ν) :
    visible (fullRow N q g) = Spec.specRow N q g :=
  visible_fullRow N q hq g

/-- per item: the column named by the alias holds the item's arithmetic on the aggregates
(`NULL` exactly when some operand has no value) -/
theorem select_item_value (q : Query ν) (hq : wf q = true) (g : Group ν) (n : Name) :
    get (.col n) (fullRow N q g) = lookupIn n (Spec.specRow N q g) := by
  rw [get_col_visible, visible_fullRow N q hq g]

omit [DecidableEq ν] in
/-- the arithmetic is evaluated structurally on the aggregate values -/
theorem select_arith_structure (env : Name → Option (Val ν)) (rows : List (InRow ν)) (o : Op) (l r : Expr ν)
    (f : AggFn) (a : Arg ν) (x : ν) :
    Spec.exprVal N env rows (.bin o l r)
        = bin2 (applyOp N o) (Spec.exprVal N env rows l) (Spec.exprVal N env rows r) ∧
      Spec.exprVal N env rows (.agg f a) = aggEval N f a rows ∧
      Spec.exprVal N env rows (.lit x) = some x :=
  ⟨rfl, rfl, rfl⟩

/-- The rewritten HAVING predicate, evaluated on a group's result row with its hidden columns, decides
the relational predicate over the group's aggregates (selected or not) and output columns. -/
theorem having_exact_row (q : Query ν) (hq : wf q = true) (g : Group ν) (p : Pred ν) (hp : q.having = some p) :
    havingKeep N p (fullRow N q g) = Spec.specHaving N q g :=
  havingKeep_fullRow N q hq g p hp

/-- The HAVING stage delivers, in order, the rows of exactly the groups whose relational HAVING
predicate is true. -/
theorem having_exact (q : Query ν) (hq : wf q = true) (gs : List (Group ν)) :
    (havingStage N q.having (gs.map (fullRow N q))).map visible
      = (gs.filter (Spec.specHaving N q)).map (Spec.specRow N q) :=
  havingStage_visible N q hq gs

/-- no placeholder and no hidden HAVING column is ever delivered (any query, any batch) -/
theorem no_hidden_columns (q : Query ν) (gs : List (Group ν)) :
    ∀ r ∈ run N q gs, allVisible r = true := by
  intro r hr
  have h := (applyLimit_prefix _ _).subset hr
  rw [applyOrderBy_eq, mem_sortBy] at h
  refine havingStage_allVisible N q _ (fun r' hr' => ?_) r h
  obtain ⟨g, _, rfl⟩ := List.mem_map.mp ((distinctStage_sublist _ _).subset hr')
  exact ⟨g, rfl⟩

/-- ORDER BY permutes the rows. -/
theorem sort_perm (q : Query ν) (rows : List (Row ν)) : (applyOrderBy N q rows).Perm rows := by
  rw [applyOrderBy_eq]
  exact sortBy_perm _ _

/-- `Sorter.less` restricted to rows whose key columns are homogeneous (per key: missing, or all
numbers, or all booleans, or all text) is a strict weak order. -/
theorem less_strict_weak (hN : NumOrd N) (q : Query ν) (S : Row ν → Prop)
    (hh : Homog (ν := ν) get (orderKeys q) S) : WeakOn (rowLess N q) S :=
  lessBy_weakOn N get hN (orderKeys q) S hh

/-- ORDER BY delivers rows with homogeneous key columns sorted: no row sorts strictly before an earlier
one (multi-key, ASC/DESC, missing first). -/
theorem sort_sorted (hN : NumOrd N) (q : Query ν) (rows : List (Row ν))
    (hh : Homog (ν := ν) get (orderKeys q) (fun r => r ∈ rows)) :
    SortedBy (rowLess N q) (applyOrderBy N q rows) := by
  rw [applyOrderBy_eq]
  exact sortBy_sorted _ _ (less_strict_weak N hN q _ hh) rows (fun _ h => h)

/-- LIMIT n keeps the first n rows of that order (all of them without LIMIT, none for LIMIT 0) -/
theorem limit_prefix {α : Type} (n : Option Nat) (l : List α) :
    applyLimit n l <+: l ∧ (applyLimit n l).length = Spec.limitLen n l.length ∧
      applyLimit (some 0) l = [] ∧ applyLimit none l = l :=
  ⟨applyLimit_prefix n l, length_applyLimit n l, rfl, rfl⟩

/-- DISTINCT (the loop over a `seen` set) keeps exactly the first occurrence of every row -/
theorem distinct_first_occurrence {α : Type} [DecidableEq α] (l : List α) :
    distinctStage true l = Spec.dedup l ∧ (Spec.dedup l).Nodup ∧ (∀ x, x ∈ Spec.dedup l ↔ x ∈ l) ∧
      (Spec.dedup l).Sublist l ∧ distinctStage false l = l :=
  ⟨distinctStage_true l, nodup_dedup l, mem_dedup l, dedup_sublist l, rfl⟩

/-- the groups of a batch have pairwise different keys -/
theorem groupBatch_keys_nodup (gcol : Name) (batch : List (InRow ν)) :
    ((groupBatch gcol batch).map (·.key)).Nodup := by
  unfold groupBatch
  suffices h : ∀ gs : List (Group ν), (gs.map (·.key)).Nodup →
      ((batch.foldl (fun gs r => addToGroups gcol r gs) gs).map (·.key)).Nodup from h [] List.nodup_nil
  induction batch with
  | nil => exact fun _ h => h
  | cons r rs ih =>
    refine fun gs hn => ih _ ?_
    rw [addToGroups_keys]
    split
    next => exact hn
    next hm =>
      refine List.nodup_append.mpr ⟨hn, List.pairwise_singleton _ _, fun a ha b hb e => hm ?_⟩
      rwa [← List.mem_singleton.mp hb, ← e]

/-- The pipeline of the code — DISTINCT, HAVING on the rows with hidden columns, their removal, stable
sort, LIMIT — delivers exactly `limit n (sortBy keys (distinct (rows of the groups satisfying HAVING)))`,
for whatever pre-sort order `gs` the aggregator's map yields the groups in. -/
theorem pipeline_eq_spec (q : Query ν) (hq : wf q = true) (gs : List (Group ν))
    (hk : (gs.map (·.key)).Nodup) :
    (run N q gs).map visible = Spec.run N q gs :=
  run_visible N q hq gs hk

/-- instance for the groups of an actual batch of events (no hypothesis on the batch) -/
theorem pipeline_eq_spec_batch (q : Query ν) (hq : wf q = true) (batch : List (InRow ν)) :
    (run N q (groupBatch q.gcol batch)).map visible = Spec.run N q (groupBatch q.gcol batch) :=
  run_visible N q hq _ (groupBatch_keys_nodup q.gcol batch)

/-- The oracle the driver evaluates on the implementation's deliveries accepts every legal outcome:
whatever order `gs'` the groups are taken in, the batch consists of candidate rows without repetition,
is sorted, has the length LIMIT allows, and omits no candidate that sorts before a delivered row. -/
theorem oracle_accepts_every_order (hN : NumOrd N) (q : Query ν) (hq : wf q = true)
    (gs gs' : List (Group ν)) (hp : gs'.Perm gs) (hk : (gs.map (·.key)).Nodup)
    (hh : Homog (ν := ν) lookupIn q.orderBy (fun r => r ∈ Spec.candidates N q gs)) :
    Spec.valid N q gs ((run N q gs').map visible) = true := by
  have hcp := candidates_perm N q gs gs' hp hk
  rw [run_visible N q hq gs' ((hp.map _).nodup_iff.mpr hk), valid_iff]
  exact Legal.of_arrangement _ _ _ _ ((sortBy_perm _ _).trans hcp) (candidates_nodup N q gs hk)
    (sortBy_sorted _ _ (lessBy_weakOn N lookupIn hN q.orderBy _ hh) _ fun _ hz => hcp.mem_iff.mp hz)

/-- The oracle accepts only legal outcomes: the LIMIT-prefix of the stable sort of *some* arrangement of
the candidate rows (it stands for the pre-sort order the aggregator's map happened to yield). -/
theorem oracle_accepts_only_legal (q : Query ν) (gs : List (Group ν)) (hk : (gs.map (·.key)).Nodup)
    (out : List (Spec.SRow ν)) (hv : Spec.valid N q gs out = true) :
    ∃ L, L.Perm (Spec.candidates N q gs) ∧ applyLimit q.limit (sortBy (Spec.specLess N q) L) = out :=
  ((valid_iff N q gs out).mp hv).exists_arrangement (candidates_nodup N q gs hk)

end

/-- exact integer arithmetic: with it the hypotheses of the sorting statements can be met (`intNum_ord`) -/
def intNum : Num Int where
  zero := 0
  one := 1
  add := (· + ·)
  sub := (· - ·)
  mul := (· * ·)
  div := (· / ·)
  lt a b := decide (a < b)
  eq a b := decide (a = b)
  render x := (toString x).toList

theorem intNum_ord : NumOrd intNum := by
  constructor
  · intro a b h
    simp only [intNum, decide_eq_true_eq, decide_eq_false_iff_not] at h ⊢
    exact Int.lt_asymm h
  · intro a b c h1 h2
    simp only [intNum, decide_eq_false_iff_not, Int.not_lt] at h1 h2 ⊢
    exact Int.le_trans h2 h1

/-- `SELECT d, AVG(t) * 2 + 32 AS f, SUM(a) AS s … HAVING SUM(a * t) > 100 ORDER BY f DESC LIMIT 1` -/
def exQuery : Query Int where
  gcol := ['d']
  items := [(['f'], .bin .add (.bin .mul (.agg .avg (.col ['t'])) (.lit 2)) (.lit 32)),
            (['s'], .agg .sum (.col ['a']))]
  having := some (.cmp .gt (.agg .sum (.bin .mul (.col ['a']) (.col ['t']))) (.lit 100))
  orderBy := [(['f'], true)]
  limit := some 1
  distinct := true

def exRow (d : Char) (a t : Int) : InRow Int := [(['d'], .str [d]), (['a'], .num a), (['t'], .num t)]

def exBatch : List (InRow Int) :=
  [exRow 'x' 1 10, exRow 'y' 5 30, exRow 'x' 3 50, exRow 'z' 1 10, exRow 'y' 1 10]

example : wf exQuery = true := by decide +kernel
-- x: avg(t)=30 → f=92, s=4, sum(a*t)=160 ✓;  y: avg 20 → 72, s=6, 160 ✓;  z: 10 → 52, s=1, 10 ✗
example : (run intNum exQuery (groupBatch exQuery.gcol exBatch)).map visible
    = [[(['d'], .str ['x']), (['f'], .num 92), (['s'], .num 4)]] := by decide +kernel
example : Spec.run intNum exQuery (groupBatch exQuery.gcol exBatch)
    = [[(['d'], .str ['x']), (['f'], .num 92), (['s'], .num 4)]] := by decide +kernel
-- the hidden HAVING column and the placeholder exist inside the pipeline
example : get (.hv .sum (.bin .mul (.col ['a']) (.col ['t'])))
    (fullRow intNum exQuery ⟨.str ['x'], [exRow 'x' 1 10, exRow 'x' 3 50]⟩) = some (.num 160) := by decide +kernel
example : get (.ph .avg (.col ['t']))
    (aggRow intNum exQuery ⟨.str ['x'], [exRow 'x' 1 10, exRow 'x' 3 50]⟩) = some (.num 30) := by decide +kernel
-- the oracle accepts the delivery, and rejects the unfiltered / unsorted / over-long ones
example : Spec.valid intNum exQuery (groupBatch exQuery.gcol exBatch)
    [[(['d'], .str ['x']), (['f'], .num 92), (['s'], .num 4)]] = true := by decide +kernel
example : Spec.validClause intNum exQuery (groupBatch exQuery.gcol exBatch)
    [[(['d'], .str ['y']), (['f'], .num 72), (['s'], .num 6)]] = some "omitted-row-sorts-before-delivered" := by decide +kernel
example : Spec.validClause intNum exQuery (groupBatch exQuery.gcol exBatch)
    [[(['d'], .str ['z']), (['f'], .num 52), (['s'], .num 1)]] = some "row-not-a-candidate" := by decide +kernel
example : Spec.validClause intNum { exQuery with limit := none } (groupBatch exQuery.gcol exBatch)
    [[(['d'], .str ['y']), (['f'], .num 72), (['s'], .num 6)], [(['d'], .str ['x']), (['f'], .num 92), (['s'], .num 4)]]
    = some "not-sorted" := by decide +kernel
example : Spec.validClause intNum exQuery (groupBatch exQuery.gcol exBatch) [] = some "row-count" := by decide +kernel
-- sorting: ties keep their order, DESC reverses, a missing key sorts first
example : sortBy (fun a b : Nat × Nat => decide (a.1 < b.1)) [(2, 0), (1, 1), (2, 2), (1, 3)]
    = [(1, 1), (1, 3), (2, 0), (2, 2)] := by decide +kernel
example : cmpVal intNum none (some (.num 0)) = .lt ∧ cmpVal intNum (some (.num 3)) (some (.num 2)) = .gt ∧
    cmpVal intNum (some (.str ['a'])) (some (.str ['b'])) = .lt ∧
    cmpVal intNum (some (.bool false)) (some (.bool true)) = .lt := by decide +kernel
example : Spec.dedup [1, 2, 1, 3, 2] = [1, 2, 3] ∧ distinctStage true [1, 2, 1, 3, 2] = [1, 2, 3] := by decide +kernel
example : applyLimit (some 2) [1, 2, 3] = [1, 2] ∧ applyLimit (some 0) [1, 2, 3] = [] ∧
    applyLimit (some 5) [1, 2, 3] = [1, 2, 3] ∧ applyLimit none [1, 2, 3] = [1, 2, 3] := by decide +kernel
-- the homogeneity hypothesis of `sort_sorted` / `oracle_accepts_every_order` is satisfiable
example : Homog (ν := Int) lookupIn exQuery.orderBy
    (fun r => r ∈ Spec.candidates intNum exQuery (groupBatch exQuery.gcol exBatch)) := by
  intro kd hkd
  refine ⟨.num, ?_⟩
  intro r hr
  have hc : Spec.candidates intNum exQuery (groupBatch exQuery.gcol exBatch)
      = [[(['d'], .str ['x']), (['f'], .num 92), (['s'], .num 4)],
         [(['d'], .str ['y']), (['f'], .num 72), (['s'], .num 6)]] := by decide +kernel
  rw [hc] at hr
  simp only [exQuery, List.mem_singleton] at hkd
  subst hkd
  simp only [List.mem_cons, List.not_mem_nil, or_false] at hr
  rcases hr with rfl | rfl <;> rfl

end C07

/-! tie to the source: hidden HAVING columns are created
as `__having_%d__` and removed by the prefix `__having_`; SELECT placeholders carry the `__` affixes; the
sorter's fallback rendering is `%v`; `compareOrderValues` has fifteen `return`s of `0`/`-1`/`1` (the sign
is not part of the literal) -/
theorem C07.facts_hidden_names :
    Facts.stream_DataProcessor_processAggregationResults_strlits = ["", "__having_"] ∧
    Facts.rsql_extractHavingAggregates_strlits
      = ["", "(?i)\\b([a-z_]+)\\s*\\(", "", "", "__having_%d__", "", ""] ∧
    Facts.aggregator_PlaceholderPrefix = "__" ∧ Facts.aggregator_PlaceholderSuffix = "__" ∧
    Facts.stream_orderString_strlits = ["%v"] ∧
    Facts.stream_compareOrderValues_intlits = [0, 1, 1, 1, 1, 0, 1, 1, 0, 0, 1, 1, 1, 1, 0] :=
  ⟨rfl, rfl, rfl, rfl, rfl, rfl⟩
