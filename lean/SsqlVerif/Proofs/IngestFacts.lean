/-
The three invariants hold in every reachable state, and what they give in the terms of `Props/C19`.
-/
import SsqlVerif.Proofs.IngestOrder
set_option autoImplicit false

namespace Ingest

/-- the one induction: `step_kind` names the kind of step, each invariant survives each kind -/
theorem reach_invariants (c : Cfg) (n : Nat) (s : State) (h : Reach c n s) :
    Inv c s ∧ CI s ∧ (c.consLock = true → OrdInv s) := by
  induction h with
  | init => exact ⟨inv_init c n, ci_init c n, fun _ => ord_init c n⟩
  | step t w _ hs ih =>
    obtain ⟨h1, h2, h3⟩ := ih
    have k := step_kind t w h1 _ hs
    exact ⟨inv_kind h1 k, CI.kind h2 k, fun hcl => ord_kind hcl h1 h2 (h3 hcl) k⟩

variable {c : Cfg} {s : State}

theorem CI.perm (h : CI s) : (accounted s).Perm (entered s) :=
  List.perm_iff_count.mpr h.rows

/-- no row is handed to Emit twice: the rows of one producer differ in `seq`, those of two
producers in `prod` -/
theorem entered_nodup (hinv : Inv c s) : (entered s).Nodup := by
  refine List.pairwise_flatMap.mpr ⟨fun p _ => ?_, List.pairwise_iff_getElem.mpr fun i j hi hj hij x hx y hy e => ?_⟩
  · exact List.pairwise_map.mpr (List.nodup_range.imp fun h e => h (Row.mk.inj e).2)
  · obtain ⟨_, _, rfl⟩ := List.mem_map.mp hx
    obtain ⟨_, _, rfl⟩ := List.mem_map.mp hy
    have h1 := (hinv.p i _ (List.getElem?_eq_getElem hi)).hid
    have h2 := (hinv.p j _ (List.getElem?_eq_getElem hj)).hid
    exact absurd (h1.symm.trans ((Row.mk.inj e).1.trans h2)) (Nat.ne_of_lt hij)

theorem accounted_nodup (hinv : Inv c s) (hc : CI s) : (accounted s).Nodup :=
  hc.perm.nodup_iff.mpr (entered_nodup hinv)

theorem processed_nodup (hinv : Inv c s) (hc : CI s) : s.processed.Nodup := by
  have : s.processed.Sublist (accounted s) := by
    simp only [accounted, List.append_assoc]
    exact List.sublist_append_left _ _
  exact this.nodup (accounted_nodup hinv hc)

theorem length_buffered {cs : List Chan} {k : Nat} {ch : Chan} (h : cs[k]? = some ch) :
    (cs.flatMap (·.buf)).length = ch.buf.length + ((cs.set k { ch with buf := [] }).flatMap (·.buf)).length := by
  have := length_flatMap_set (·.buf) { ch with buf := [] } h
  rw [Nat.add_comm] at this
  exact this.symm

theorem allIdle_pc (h : allIdle s = true) {p : Prod} (hp : p ∈ s.prods) : p.pc = .idle := by
  have := List.all_eq_true.mp h p hp
  simpa using this

theorem allIdle_fly (hc : CI s) (h : allIdle s = true) : s.prods.flatMap flyRows = [] :=
  List.flatMap_eq_nil_iff.mpr fun p hp => by simp [flyRows, hc.idle p hp (allIdle_pc h hp)]

theorem buffered_cur (hinv : Inv c s) (hst : s.stopped = false) (hmig : s.mig = none) :
    (s.chans.flatMap (·.buf)).length = curLen s := by
  obtain ⟨k, hk, hlt⟩ := hinv.core.cur_running hst hmig
  have hch := List.getElem?_eq_getElem hlt
  have hnil : (s.chans.set k { s.chans[k] with buf := [] }).flatMap (·.buf) = [] := by
    refine List.flatMap_eq_nil_iff.mpr fun x hx => Decidable.byContradiction fun hne => ?_
    obtain ⟨j, hj⟩ := List.getElem?_of_mem hx
    by_cases hjk : j = k
    · rw [hjk, getElem?_set_of_some _ hch] at hj
      cases hj
      exact hne rfl
    · rw [List.getElem?_set_ne (Ne.symm hjk)] at hj
      rcases hinv.core.others j x hj hne with h1 | h1 | ⟨_, _, h1⟩
      · rw [hst] at h1
        cases h1
      · rw [hk] at h1
        cases h1
        exact hjk rfl
      · rw [hmig] at h1
        cases h1
  rw [length_buffered hch, hnil]
  simp only [curLen, hk, hch, List.length_nil, Nat.add_zero]

theorem exits_nil (hinv : Inv c s) (hst : s.stopped = false) : s.exits = [] :=
  Decidable.byContradiction fun he => Bool.false_ne_true (hst.symm.trans (hinv.core.exits_stopped he))

theorem allIdle_mig (hinv : Inv c s) (hidle : allIdle s = true) : s.mig = none := by
  cases hm : s.mig with
  | none => rfl
  | some x =>
    obtain ⟨j, o, n⟩ := x
    obtain ⟨p, hp, hpc⟩ := hinv.own j o n hm
    exact nomatch hpc.symm.trans (allIdle_pc hidle (List.mem_of_getElem? hp))

theorem length_settled (s : State) : (settled s).length =
    s.processed.length + s.dropped.length + s.exits.length + (s.chans.flatMap (·.buf)).length := by
  simp only [settled, List.length_append]

theorem length_settled_running (hinv : Inv c s) (hst : s.stopped = false)
    (hmig : s.mig = none) : (settled s).length = s.processed.length + s.dropped.length + curLen s := by
  rw [length_settled, exits_nil hinv hst, buffered_cur hinv hst hmig]
  rfl

theorem curLen_le (s : State) : curLen s ≤ (s.chans.flatMap (·.buf)).length := by
  unfold curLen
  split
  · exact Nat.zero_le _
  · split
    · rename_i ch hch
      rw [length_buffered hch]
      exact Nat.le_add_right _ _
    · exact Nat.zero_le _

theorem CI.visible_le (hc : CI s) :
    s.processed.length + s.dropped.length + curLen s ≤ (entered s).length := by
  have h1 := hc.perm.length_eq
  have h2 := curLen_le s
  rw [accounted_eq, List.length_append, length_settled] at h1
  omega

theorem CI.processed_sub (hc : CI s) (r : Row) (h : r ∈ s.processed) : r ∈ entered s :=
  hc.perm.mem_iff.mp (by simp [accounted, h])

/-- not stopped, all Emit calls returned: every emitted row is processed, dropped, or in the
current input buffer -/
theorem quiescent_count (hinv : Inv c s) (hci : CI s)
    (hst : s.stopped = false) (hidle : allIdle s = true) :
    s.processed.length + s.dropped.length + curLen s = s.input := by
  rw [hci.input, ← hci.perm.length_eq, accounted_eq, allIdle_fly hci hidle, List.append_nil,
    length_settled_running hinv hst (allIdle_mig hinv hidle)]

theorem curCap_le_max (hinv : Inv c s) (hm : 0 < c.maxCap) :
    curCap s ≤ max c.maxCap c.cap0 := by
  unfold curCap
  split
  · exact Nat.zero_le _
  · split
    · rename_i ch hch
      exact hinv.core.capsMax hm ch (List.mem_of_getElem? hch)
    · exact Nat.zero_le _

theorem cap0_le_curCap (hinv : Inv c s) (hst : s.stopped = false) (hmig : s.mig = none) :
    c.cap0 ≤ curCap s := by
  obtain ⟨k, hk, hlt⟩ := hinv.core.cur_running hst hmig
  simp only [curCap, hk, List.getElem?_eq_getElem hlt]
  exact hinv.core.capsMin _ (List.getElem_mem hlt)

end Ingest
