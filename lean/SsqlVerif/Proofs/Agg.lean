/-
C03: each aggregator of `Model/Agg.lean` against the specification's function for it. No law of
arithmetic or order is used, so everything here holds for float64 as well as for exact arithmetic.
-/
import SsqlVerif.Model.Agg
import SsqlVerif.Spec.Agg
set_option autoImplicit false

theorem List.rev_ind {α : Type} {P : List α → Prop} (h0 : P [])
    (hs : ∀ l x, P l → P (l ++ [x])) : ∀ l, P l := by
  intro l
  rw [← List.reverse_reverse l]
  generalize l.reverse = r
  induction r with
  | nil => exact h0
  | cons x r ih =>
    rw [List.reverse_cons]
    exact hs _ _ ih

namespace AggProofs
open Agg AggSpec NumOps

theorem foldl_optStep {σ α β : Type} (t : α → Option β) (g : σ → β → σ) (step : σ → α → σ)
    (h : ∀ s v, step s v = match t v with | none => s | some x => g s x) (s : σ) (l : List α) :
    l.foldl step s = (l.filterMap t).foldl g s := by
  induction l generalizing s with
  | nil => rfl
  | cons a l ih =>
    rw [List.foldl_cons, List.filterMap_cons, h]
    cases t a <;> exact ih _

theorem foldl_snoc_list {α : Type} (s l : List α) : l.foldl (fun acc x => acc ++ [x]) s = s ++ l := by
  induction l generalizing s with
  | nil => simp
  | cons a l ih => simp [ih]

theorem distinct_snoc {α β : Type} [DecidableEq β] (key : α → β) (l : List α) (x : α) :
    distinct key (l ++ [x]) =
      if key x ∈ l.map key then distinct key l else distinct key l ++ [x] := by
  have h : (l.any fun y => decide (key y = key x)) = true ↔ key x ∈ l.map key := by
    rw [List.any_eq_true, List.mem_map]
    simp only [decide_eq_true_eq]
  unfold distinct
  simp only [List.reverse_append, List.reverse_cons, List.reverse_nil, List.nil_append,
    List.singleton_append, distinctRev, List.any_reverse, h]

theorem mem_distinct_keys {α β : Type} [DecidableEq β] (key : α → β) (l : List α) (b : β) :
    b ∈ (distinct key l).map key ↔ b ∈ l.map key := by
  induction l using List.rev_ind generalizing b with
  | h0 => rfl
  | hs l x ih =>
    rw [distinct_snoc, List.map_append, List.mem_append, ← ih b]
    split
    · next h =>
      refine ⟨Or.inl, fun h1 => h1.elim id fun h1 => ?_⟩
      rw [List.map_singleton, List.mem_singleton] at h1
      exact h1 ▸ (ih _).mpr h
    · rw [List.map_append, List.mem_append]

theorem mem_distinct_id {α : Type} [DecidableEq α] (l : List α) (a : α) :
    a ∈ distinct id l ↔ a ∈ l := by
  have := mem_distinct_keys id l a
  rwa [List.map_id, List.map_id] at this

theorem distinct_id_snoc {α : Type} [DecidableEq α] (l : List α) (x : α) :
    distinct id (l ++ [x]) = if x ∈ l then distinct id l else distinct id l ++ [x] := by
  rw [distinct_snoc, List.map_id]
  rfl

theorem nodup_distinct_id {α : Type} [DecidableEq α] (l : List α) : (distinct id l).Nodup := by
  induction l using List.rev_ind with
  | h0 => exact List.nodup_nil
  | hs l x ih =>
    rw [distinct_id_snoc]
    split
    · exact ih
    · next h =>
      refine List.nodup_append.mpr ⟨ih, List.pairwise_singleton _ x, fun a ha b hb hab => h ?_⟩
      rw [List.mem_singleton.mp hb] at hab
      exact hab ▸ (mem_distinct_id l a).mp ha

variable {ν : Type} [NumOps ν]

section
-- these statements carry the instance `[NumOps ν]` without using it
set_option linter.unusedSectionVars false

@[simp] theorem isNull_null : (Val.null : Val ν).isNull = true := rfl
@[simp] theorem isNull_int (i : Int) : (Val.int i : Val ν).isNull = false := rfl
@[simp] theorem isNull_flt (x : ν) : (Val.flt x : Val ν).isNull = false := rfl
@[simp] theorem isNull_str (s : Str) : (Val.str s : Val ν).isNull = false := rfl
@[simp] theorem isNull_bool (b : Bool) : (Val.bool b : Val ν).isNull = false := rfl

theorem last_fold (l : List (Val ν)) (v : Val ν) :
    l.foldl (fun (_ : Val ν) x => x) v = (l.getLast?).getD v := by
  induction l using List.rev_ind with
  | h0 => rfl
  | hs l x _ => rw [List.foldl_append, List.getLast?_concat, List.foldl_cons, List.foldl_nil, Option.getD_some]

end

section
omit [NumOps ν]

theorem count_fold (l : List (Val ν)) (n : Nat) :
    l.foldl countAdd n = n + countNonNull l := by
  induction l generalizing n with
  | nil => rfl
  | cons v l ih =>
    rw [List.foldl_cons, ih, countAdd, countNonNull, countNonNull, List.filter_cons]
    cases v.isNull
    · exact Nat.add_right_comm n 1 _
    · rfl

theorem first_fold_started (l : List (Val ν)) (v : Val ν) :
    l.foldl FirstSt.add ⟨v, true⟩ = ⟨v, true⟩ := by
  induction l with
  | nil => rfl
  | cons a l ih => exact ih

theorem first_result (l : List (Val ν)) :
    (l.foldl FirstSt.add FirstSt.new).value = firstOf l := by
  cases l with
  | nil => rfl
  | cons a l => exact congrArg FirstSt.value (first_fold_started l a)

theorem nthResult_eq (n : Nat) (l : List (Val ν)) : nthResult n l = nthOf n l := by
  fun_cases nthResult n l
  · next h =>  -- an n-th value
    rw [nthOf, if_neg (Nat.ne_of_gt h.2), List.getD_eq_getElem?_getD]
  · next h =>  -- none
    unfold nthOf
    split
    · rfl
    · next hn =>
      rw [List.getElem?_eq_none (Nat.le_sub_one_of_lt (Nat.lt_of_not_le fun hge => h ⟨hge, Nat.pos_of_ne_zero hn⟩))]
      rfl

theorem mergeResult_eq (e : Env ν) (l : List (Val ν)) : mergeResult e l = mergedOf e l := by
  cases l <;> rfl

theorem dedup_fold (e : Env ν) (l : List (Val ν)) :
    l.foldl (DedupSt.add e) DedupSt.new = ⟨(distinct (keyOf e) l).map (keyOf e), distinct (keyOf e) l⟩ := by
  induction l using List.rev_ind with
  | h0 => rfl
  | hs l x ih =>
    rw [List.foldl_append, ih, distinct_snoc]
    simp only [List.foldl_cons, List.foldl_nil, DedupSt.add, List.contains_iff_mem, mem_distinct_keys]
    split
    · rfl
    · rw [List.map_append]
      rfl

end

theorem sum_addNum_fold (xs : List ν) (z : ν) (h : Bool) :
    xs.foldl SumSt.addNum ⟨z, h⟩ = ⟨xs.foldl add z, h || !xs.isEmpty⟩ := by
  induction xs generalizing z h with
  | nil => simp
  | cons x xs ih => simp [SumSt.addNum, ih]

theorem sum_result (xs : List ν) : (xs.foldl SumSt.addNum SumSt.new).result = numOrNull xs total := by
  rw [SumSt.new, sum_addNum_fold]
  cases xs <;> rfl

theorem avg_addNum_fold (xs : List ν) (z : ν) (n : Nat) :
    xs.foldl AvgSt.addNum ⟨z, n⟩ = ⟨xs.foldl add z, xs.length + n⟩ := by
  induction xs generalizing z n with
  | nil => exact congrArg (AvgSt.mk z) (Nat.zero_add n).symm
  | cons x xs ih => exact (ih _ _).trans (congrArg (AvgSt.mk _) (Nat.add_right_comm _ n 1))

theorem avg_result (xs : List ν) : (xs.foldl AvgSt.addNum AvgSt.new).result = numOrNull xs average := by
  rw [AvgSt.new, avg_addNum_fold]
  cases xs <;> rfl

/-- the first extremal element for `r`; the specification's `least` and `greatest` are its instances
for `lt` and for the converse of `lt` -/
def extremum (r : ν → ν → Bool) : List ν → Option ν
  | [] => none
  | x :: xs => some (xs.foldl (fun m y => if r y m then y else m) x)

theorem least_eq (l : List ν) : least l = extremum lt l := by
  cases l <;> rfl

theorem greatest_eq (l : List ν) : greatest l = extremum (fun a b => lt b a) l := by
  cases l <;> rfl

omit [NumOps ν] in
theorem ext_fold_started (r : ν → ν → Bool) (xs : List ν) (m : ν) :
    xs.foldl (fun (s : ExtSt ν) x => if s.first || r x s.value then ⟨x, false⟩ else s) ⟨m, false⟩
      = ⟨xs.foldl (fun m y => if r y m then y else m) m, false⟩ := by
  induction xs generalizing m with
  | nil => rfl
  | cons x xs ih =>
    simp only [List.foldl_cons, Bool.false_or]
    cases r x m
    · exact ih m
    · exact ih x

theorem ext_result (r : ν → ν → Bool) (xs : List ν) :
    (xs.foldl (fun (s : ExtSt ν) x => if s.first || r x s.value then ⟨x, false⟩ else s) ExtSt.new).result
      = optNum (extremum r xs) := by
  cases xs with
  | nil => rfl
  | cons x xs => exact congrArg ExtSt.result (ext_fold_started r xs x)

theorem min_result (xs : List ν) : (xs.foldl ExtSt.minNum ExtSt.new).result = optNum (least xs) :=
  (ext_result lt xs).trans (congrArg optNum (least_eq xs).symm)

theorem max_result (xs : List ν) : (xs.foldl ExtSt.maxNum ExtSt.new).result = optNum (greatest xs) :=
  (ext_result (fun a b => lt b a) xs).trans (congrArg optNum (greatest_eq xs).symm)

theorem sqDevSum_mean (l : List ν) : sqDevSum l (mean l) = sqDevTotal l :=
  (List.foldl_map (f := fun v => mul (sub v (average l)) (sub v (average l))) (g := add)).symm

theorem stddevResult_eq (l : List ν) : stddevResult l = sampleStdDev l := by
  unfold stddevResult sampleStdDev
  rw [sqDevSum_mean]

theorem varResult_eq (l : List ν) : varResult l = populationVariance l := by
  unfold varResult populationVariance
  rw [sqDevSum_mean]

theorem varsResult_eq (l : List ν) : varsResult l = sampleVariance l := by
  unfold varsResult sampleVariance
  rw [sqDevSum_mean]

theorem pctIndex_eq (p : ν) (n : Nat) :
    pctIndex p n = Nat.min (floorNat (mul p (ofNat (n - 1)))) (n - 1) := by
  fun_cases pctIndex p n
  · next h => exact (Nat.min_eq_right (Nat.le_trans (Nat.sub_le n 1) h)).symm
  · next h => exact (Nat.min_eq_left (Nat.le_sub_one_of_lt (Nat.lt_of_not_le h))).symm

theorem insertSorted_perm (x : ν) (l : List ν) : (insertSorted x l).Perm (x :: l) := by
  fun_induction insertSorted x l with
  | case1 => exact List.Perm.refl _
  | case2 y ys _ => exact List.Perm.refl _  -- x first
  | case3 y ys _ ih =>  -- x after y
    exact (List.Perm.cons y ih).trans (List.Perm.swap x y ys)

theorem isort_perm (l : List ν) : (isort l).Perm l := by
  induction l with
  | nil => exact List.Perm.refl _
  | cons x xs ih => exact (insertSorted_perm x (isort xs)).trans (List.Perm.cons x ih)

theorem isort_length (l : List ν) : (isort l).length = l.length := (isort_perm l).length_eq

end AggProofs
