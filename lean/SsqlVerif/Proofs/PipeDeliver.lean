/-
Delivery model (input queue → single consumer → result channel with drop-on-full + synchronous sinks):
invariants of every reachable state, by induction over the op sequence (= over all interleavings of the
producer, the consumer goroutine and the channel's reader).
-/
import SsqlVerif.Model.Pipeline
set_option autoImplicit false

namespace Pipe

/-- batches produced for a sequence of consumed rows, in order -/
def resultsOf (cfg : Config) (env : Env) (rows : List Row) : List Batch :=
  rows.flatMap (directAsync cfg env)

/-- rows the producer tried to emit, in order -/
def emitted : List DOp → List Row
  | [] => []
  | .emit r :: ops => r :: emitted ops
  | _ :: ops => emitted ops

/-- what sink number `i` received, in order -/
def sinkView (i : Nat) (log : List (Nat × Batch)) : List Batch := (log.filter fun p => p.1 == i).map Prod.snd

/-- what holds in every reachable state of the delivery model -/
structure Inv (cfg : Config) (env : Env) (dc : DCfg) (s : DState) : Prop where
  fifo : s.accepted = s.processed ++ s.inQ
  sinks : s.sinkLog = (resultsOf cfg env s.processed).flatMap (sinkCalls dc.nSinks)
  /-- drop-on-full removes batches, it never reorders or invents one -/
  chanOrder : (s.received ++ s.chan).Sublist (resultsOf cfg env s.processed)
  chanCap : s.chan.length ≤ dc.chanCap

theorem resultsOf_concat (cfg : Config) (env : Env) (rows : List Row) (row : Row) :
    resultsOf cfg env (rows ++ [row]) = resultsOf cfg env rows ++ directAsync cfg env row := by
  simp [resultsOf]

theorem chanSend_sublist (cap : Nat) (d : Bool) (ch : List Batch) (b : Batch) :
    (chanSend cap d ch b).Sublist (ch ++ [b]) := by
  fun_cases chanSend cap d ch b with
  | case1 h => exact List.Sublist.refl _  -- room
  | case2 h hd =>  -- full, drop oldest
    exact (List.take_sublist _ _).trans ((List.drop_sublist 1 ch).append (List.Sublist.refl _))
  | case3 h hd => exact List.sublist_append_left ch [b]  -- full, drop new

theorem chanSend_length (cap : Nat) (d : Bool) (ch : List Batch) (b : Batch) (h : ch.length ≤ cap) :
    (chanSend cap d ch b).length ≤ cap := by
  fun_cases chanSend cap d ch b with
  | case1 hlt =>  -- room
    rw [List.length_append]
    exact hlt
  | case2 hlt hd =>  -- full, drop oldest
    rw [List.length_take]
    exact Nat.min_le_left _ _
  | case3 hlt hd => exact h  -- full, drop new

theorem deliverAll_eq (dc : DCfg) (d : Bool) (bs : List Batch) (s : DState) :
    deliverAll dc d s bs =
      { s with chan := bs.foldl (chanSend dc.chanCap d) s.chan,
               sinkLog := s.sinkLog ++ bs.flatMap (sinkCalls dc.nSinks) } := by
  induction bs generalizing s with
  | nil => simp [deliverAll]
  | cons b rest ih => simp [deliverAll, ih, deliver]

theorem foldl_chanSend_sublist (cap : Nat) (d : Bool) (bs ch : List Batch) :
    (bs.foldl (chanSend cap d) ch).Sublist (ch ++ bs) := by
  induction bs generalizing ch with
  | nil =>
    rw [List.append_nil]
    exact List.Sublist.refl _
  | cons b rest ih =>
    rw [List.foldl_cons, List.append_cons]
    exact (ih _).trans ((chanSend_sublist cap d ch b).append_right rest)

theorem foldl_chanSend_length (cap : Nat) (d : Bool) (bs ch : List Batch) (h : ch.length ≤ cap) :
    (bs.foldl (chanSend cap d) ch).length ≤ cap := by
  induction bs generalizing ch with
  | nil => exact h
  | cons b rest ih => exact ih _ (chanSend_length cap d ch b h)

theorem inv_init (cfg : Config) (env : Env) (dc : DCfg) : Inv cfg env dc {} :=
  ⟨rfl, rfl, List.Sublist.refl _, Nat.zero_le _⟩

theorem inv_step (cfg : Config) (env : Env) (dc : DCfg) (s : DState) (op : DOp)
    (h : Inv cfg env dc s) : Inv cfg env dc (dstep cfg env dc s op) := by
  obtain ⟨hf, hs, hc, hl⟩ := h
  fun_cases dstep cfg env dc s op with
  | case1 row hcap => exact ⟨by rw [hf, List.append_assoc], hs, hc, hl⟩  -- emit accepted
  | case2 row hcap => exact ⟨hf, hs, hc, hl⟩  -- emit refused
  | case3 d hq => exact ⟨hf, hs, hc, hl⟩  -- consume, empty queue
  | case4 d row rest hq =>  -- consume a row
    rw [deliverAll_eq]
    refine ⟨?_, ?_, ?_, foldl_chanSend_length _ _ _ _ hl⟩
    · rw [hf, hq, List.append_assoc]
      rfl
    · rw [resultsOf_concat, List.flatMap_append, hs]
    · rw [resultsOf_concat]
      have := (foldl_chanSend_sublist dc.chanCap d (directAsync cfg env row) s.chan).append_left s.received
      rw [← List.append_assoc] at this
      exact this.trans (hc.append_right _)
  | case5 hq => exact ⟨hf, hs, hc, hl⟩  -- recv, empty channel
  | case6 b rest hq =>  -- recv a batch
    rw [hq] at hc hl
    refine ⟨hf, hs, ?_, Nat.le_of_succ_le hl⟩
    rw [List.append_assoc]
    exact hc

theorem inv_run (cfg : Config) (env : Env) (dc : DCfg) (s : DState) (ops : List DOp)
    (h : Inv cfg env dc s) : Inv cfg env dc (drun cfg env dc s ops) := by
  induction ops generalizing s with
  | nil => exact h
  | cons op rest ih => exact ih _ (inv_step cfg env dc s op h)

theorem accepted_dstep (cfg : Config) (env : Env) (dc : DCfg) (s : DState) (op : DOp) :
    (dstep cfg env dc s op).accepted.Sublist (s.accepted ++ emitted [op]) := by
  fun_cases dstep cfg env dc s op with
  | case1 row hcap => exact List.Sublist.refl _  -- emit accepted
  | case2 row hcap => exact List.sublist_append_left _ _  -- emit refused
  | case3 | case5 | case6 => exact List.sublist_append_left _ _  -- nothing consumed or received
  | case4 d row rest hq =>  -- consume a row
    rw [deliverAll_eq]
    exact List.sublist_append_left _ _

theorem accepted_sublist (cfg : Config) (env : Env) (dc : DCfg) (s : DState) (ops : List DOp) :
    (drun cfg env dc s ops).accepted.Sublist (s.accepted ++ emitted ops) := by
  induction ops generalizing s with
  | nil => simp [drun, emitted]
  | cons op rest ih =>
    have he : emitted (op :: rest) = emitted [op] ++ emitted rest := by cases op <;> rfl
    rw [he, ← List.append_assoc]
    exact (ih _).trans ((accepted_dstep cfg env dc s op).append_right _)

theorem sinkView_sinkCalls (n i : Nat) (hi : i < n) (b : Batch) : sinkView i (sinkCalls n b) = [b] := by
  simp [sinkView, sinkCalls, List.filter_map, Function.comp_def, List.filter_beq, hi]

theorem sinkView_flatMap (n i : Nat) (hi : i < n) (bs : List Batch) :
    sinkView i (bs.flatMap (sinkCalls n)) = bs := by
  induction bs with
  | nil => rfl
  | cons b rest ih =>
    unfold sinkView at ih ⊢
    rw [List.flatMap_cons, List.filter_append, List.map_append, ih]
    exact congrArg (· ++ rest) (sinkView_sinkCalls n i hi b)

end Pipe
