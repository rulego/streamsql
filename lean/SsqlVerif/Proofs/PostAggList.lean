/-
List facts for C07: the stable insertion sort (`insertBy`, `sortBy`), `applyLimit`, DISTINCT
(`distinctAux` = first occurrences), the oracle's tests (`Legal`).
-/
import SsqlVerif.Model.PostAgg
import SsqlVerif.Spec.PostAgg
set_option autoImplicit false

namespace PostAgg
variable {α : Type}

theorem insertBy_perm (less : α → α → Bool) (x : α) (l : List α) :
    (insertBy less x l).Perm (x :: l) := by
  fun_induction insertBy less x l with
  | case1 => exact List.Perm.refl _
  | case2 y ys _ ih => exact (List.Perm.cons y ih).trans (List.Perm.swap x y ys)  -- goes further
  | case3 => exact List.Perm.refl _  -- stops here

theorem sortBy_perm (less : α → α → Bool) (l : List α) : (sortBy less l).Perm l := by
  induction l with
  | nil => exact List.Perm.refl _
  | cons x xs ih => exact (insertBy_perm less x _).trans (List.Perm.cons x ih)

theorem mem_sortBy (less : α → α → Bool) (z : α) (l : List α) : z ∈ sortBy less l ↔ z ∈ l :=
  (sortBy_perm less l).mem_iff

theorem length_sortBy (less : α → α → Bool) (l : List α) : (sortBy less l).length = l.length :=
  (sortBy_perm less l).length_eq

/-- no later element sorts strictly before an earlier one -/
def SortedBy (less : α → α → Bool) (l : List α) : Prop := l.Pairwise (fun a b => less b a = false)

/-- on the elements satisfying `S`, `less` is asymmetric and negatively transitive (neither `a < b` nor
`b < c` gives not `a < c`) -/
structure WeakOn (less : α → α → Bool) (S : α → Prop) : Prop where
  asymm : ∀ a b, S a → S b → less a b = true → less b a = false
  ntrans : ∀ a b c, S a → S b → S c → less a b = false → less b c = false → less a c = false

section
variable (less : α → α → Bool)

theorem insertBy_sorted (S : α → Prop) (hw : WeakOn less S) (x : α) (l : List α)
    (hx : S x) (hl : ∀ z ∈ l, S z) (hs : SortedBy less l) : SortedBy less (insertBy less x l) := by
  fun_induction insertBy less x l with
  | case1 => exact List.pairwise_singleton _ x
  | case2 y ys h ih =>  -- goes further
    have hs' := List.pairwise_cons.mp hs
    refine List.pairwise_cons.mpr ⟨fun z hz => ?_,
      ih (fun z hz => hl z (List.mem_cons_of_mem _ hz)) hs'.2⟩
    rcases List.mem_cons.mp ((insertBy_perm less x ys).mem_iff.mp hz) with rfl | hz
    · exact hw.asymm y z (hl y (List.mem_cons_self ..)) hx h
    · exact hs'.1 z hz
  | case3 y ys h =>  -- stops here
    have hyx := Bool.eq_false_iff.mpr h
    refine List.pairwise_cons.mpr ⟨fun z hz => ?_, hs⟩
    rcases List.mem_cons.mp hz with rfl | hz
    · exact hyx
    · exact hw.ntrans z y x (hl z (List.mem_cons_of_mem _ hz)) (hl y (List.mem_cons_self ..)) hx
        ((List.pairwise_cons.mp hs).1 z hz) hyx

theorem sortBy_sorted (S : α → Prop) (hw : WeakOn less S) (l : List α)
    (hl : ∀ z ∈ l, S z) : SortedBy less (sortBy less l) := by
  induction l with
  | nil => exact List.Pairwise.nil
  | cons x xs ih =>
    have hxs : ∀ z ∈ xs, S z := fun z hz => hl z (List.mem_cons_of_mem _ hz)
    exact insertBy_sorted less S hw x _ (hl x (List.mem_cons_self ..))
      (fun z hz => hxs z ((mem_sortBy less z xs).mp hz)) (ih hxs)

theorem insertBy_eq_cons (x : α) (l : List α) (h : ∀ y ∈ l, less y x = false) :
    insertBy less x l = x :: l := by
  cases l with
  | nil => rfl
  | cons y ys =>
    rw [insertBy, h y (List.mem_cons_self ..)]
    rfl

theorem sortBy_append_sorted (out R : List α)
    (hs : SortedBy less out) (hr : ∀ x ∈ out, ∀ r ∈ R, less r x = false) :
    sortBy less (out ++ R) = out ++ sortBy less R := by
  induction out with
  | nil => rfl
  | cons x xs ih =>
    have hs' := List.pairwise_cons.mp hs
    rw [List.cons_append, sortBy, ih hs'.2 fun y hy => hr y (List.mem_cons_of_mem _ hy)]
    refine insertBy_eq_cons less x _ fun y hy => ?_
    rcases List.mem_append.mp hy with h | h
    · exact hs'.1 y h
    · exact hr x (List.mem_cons_self ..) y ((mem_sortBy less y R).mp h)

theorem sortBy_of_sorted (l : List α) (hs : SortedBy less l) : sortBy less l = l := by
  have := sortBy_append_sorted less l [] hs (fun _ _ _ h => nomatch h)
  rwa [List.append_nil, sortBy, List.append_nil] at this

theorem insertBy_map {β : Type} (f : α → β) (less' : β → β → Bool) (x : α) (l : List α)
    (h : ∀ y ∈ l, less y x = less' (f y) (f x)) :
    (insertBy less x l).map f = insertBy less' (f x) (l.map f) := by
  induction l with
  | nil => rfl
  | cons y ys ih =>
    rw [List.map_cons, insertBy, insertBy, ← h y (List.mem_cons_self ..)]
    split
    · rw [List.map_cons, ih fun z hz => h z (List.mem_cons_of_mem _ hz)]
    · rfl

theorem sortBy_map {β : Type} (f : α → β) (less' : β → β → Bool) (l : List α)
    (h : ∀ a ∈ l, ∀ b ∈ l, less a b = less' (f a) (f b)) :
    (sortBy less l).map f = sortBy less' (l.map f) := by
  induction l with
  | nil => rfl
  | cons x xs ih =>
    rw [List.map_cons, sortBy, sortBy,
      ← ih fun a ha b hb => h a (List.mem_cons_of_mem _ ha) b (List.mem_cons_of_mem _ hb)]
    exact insertBy_map less f less' x _ fun y hy =>
      h y (List.mem_cons_of_mem _ ((mem_sortBy less y xs).mp hy)) x (List.mem_cons_self ..)

end

theorem sortBy_congr (less less' : α → α → Bool) (l : List α)
    (h : ∀ a ∈ l, ∀ b ∈ l, less a b = less' a b) : sortBy less l = sortBy less' l := by
  simpa using sortBy_map less id less' l h

theorem applyLimit_prefix (n : Option Nat) (l : List α) : applyLimit n l <+: l := by
  cases n with
  | none => exact List.prefix_refl l
  | some n => exact List.take_prefix n l

theorem applyLimit_map {β : Type} (f : α → β) (n : Option Nat) (l : List α) :
    (applyLimit n l).map f = applyLimit n (l.map f) := by
  cases n with
  | none => rfl
  | some n => exact List.map_take

theorem length_applyLimit (n : Option Nat) (l : List α) :
    (applyLimit n l).length = Spec.limitLen n l.length := by
  cases n with
  | none => rfl
  | some n => exact List.length_take

theorem applyLimit_eq_of_prefix (n : Option Nat) (p l : List α) (hp : p <+: l)
    (hl : p.length = Spec.limitLen n l.length) : applyLimit n l = p := by
  rw [← length_applyLimit] at hl
  exact (List.prefix_of_prefix_length_le (applyLimit_prefix n l) hp (Nat.le_of_eq hl.symm)).eq_of_length hl.symm

section
variable [DecidableEq α]

theorem distinctAux_eq (seen l : List α) :
    distinctAux seen l = (Spec.dedup l).filter (fun y => decide (y ∉ seen)) := by
  fun_induction distinctAux seen l with
  | case1 => rfl
  | case2 seen x xs hx ih =>  -- seen before
    rw [Spec.dedup, List.filter_cons, if_neg (by simpa using hx), List.filter_filter, ih]
    refine List.filter_congr fun y _ => ?_
    by_cases hy : y = x <;> simp [hy, hx]
  | case3 seen x xs hx ih =>  -- first occurrence
    rw [Spec.dedup, List.filter_cons, if_pos (by simpa using hx), List.filter_filter, ih]
    congr 1
    refine List.filter_congr fun y _ => ?_
    simp [Bool.and_comm]

theorem distinctStage_true (l : List α) : distinctStage true l = Spec.dedup l := by
  rw [distinctStage, if_pos rfl, distinctAux_eq]
  exact List.filter_eq_self.mpr fun _ _ => by simp

theorem mem_dedup (l : List α) (x : α) : x ∈ Spec.dedup l ↔ x ∈ l := by
  induction l with
  | nil => rfl
  | cons y ys ih =>
    rw [Spec.dedup, List.mem_cons, List.mem_cons, List.mem_filter, ih]
    by_cases h : x = y <;> simp [h]

theorem nodup_dedup (l : List α) : (Spec.dedup l).Nodup := by
  induction l with
  | nil => exact List.nodup_nil
  | cons y ys ih => exact List.nodup_cons.mpr ⟨by simp [List.mem_filter], ih.filter _⟩

theorem dedup_of_nodup (l : List α) (hn : l.Nodup) : Spec.dedup l = l := by
  induction l with
  | nil => rfl
  | cons y ys ih =>
    have hn' := List.nodup_cons.mp hn
    rw [Spec.dedup, ih hn'.2]
    congr 1
    refine List.filter_eq_self.mpr fun z hz => decide_eq_true fun h => hn'.1 (h ▸ hz)

theorem dedup_sublist (l : List α) : (Spec.dedup l).Sublist l := by
  induction l with
  | nil => exact List.Sublist.refl _
  | cons y ys ih => exact List.Sublist.cons_cons y ((List.filter_sublist).trans ih)

theorem distinctStage_of_nodup (d : Bool) (l : List α) (hn : l.Nodup) : distinctStage d l = l := by
  cases d with
  | false => rfl
  | true => rw [distinctStage_true, dedup_of_nodup l hn]

theorem distinctStage_sublist (d : Bool) (l : List α) : (distinctStage d l).Sublist l := by
  cases d with
  | false => exact List.Sublist.refl _
  | true => exact distinctStage_true l ▸ dedup_sublist l

theorem nodupB_iff (l : List α) : Spec.nodupB l = true ↔ l.Nodup := by
  induction l with
  | nil => simp [Spec.nodupB]
  | cons x xs ih => simp [Spec.nodupB, ih, List.nodup_cons]

end

theorem sortedBy_iff (less : α → α → Bool) (l : List α) :
    Spec.sortedBy less l = true ↔ SortedBy less l := by
  induction l with
  | nil => simp [Spec.sortedBy, SortedBy]
  | cons x xs ih =>
    simp only [Spec.sortedBy, Bool.and_eq_true, List.all_eq_true, Bool.not_eq_true', ih, SortedBy,
      List.pairwise_cons]

/-- what the oracle tests of a delivery `out`, given the candidates `cand` -/
def Legal (less : α → α → Bool) (n : Option Nat) (cand out : List α) : Prop :=
  (∀ r ∈ out, r ∈ cand) ∧ out.Nodup ∧ out.length = Spec.limitLen n cand.length ∧ SortedBy less out ∧
    ∀ c ∈ cand, c ∈ out ∨ ∀ x ∈ out, less c x = false

theorem Legal.of_arrangement (less : α → α → Bool) (n : Option Nat) (cand s : List α) (hp : s.Perm cand)
    (hn : cand.Nodup) (hs : SortedBy less s) : Legal less n cand (applyLimit n s) := by
  obtain ⟨t, ht⟩ := applyLimit_prefix n s
  have hsub := (applyLimit_prefix n s).sublist
  refine ⟨fun r hr => hp.mem_iff.mp (hsub.subset hr), (hp.nodup_iff.mpr hn).sublist hsub,
    by rw [length_applyLimit, hp.length_eq], hs.sublist hsub, fun c hc => ?_⟩
  have hc' := hp.mem_iff.mpr hc
  rw [← ht] at hc' hs
  exact (List.mem_append.mp hc').imp_right fun hct x hx => (List.pairwise_append.mp hs).2.2 x hx c hct

theorem Legal.exists_arrangement [DecidableEq α] {less : α → α → Bool} {n : Option Nat} {cand out : List α}
    (h : Legal less n cand out) (hn : cand.Nodup) :
    ∃ l, l.Perm cand ∧ applyLimit n (sortBy less l) = out := by
  obtain ⟨h1, h2, h3, h4, h5⟩ := h
  have hin : (cand.filter (fun c => out.contains c)).Perm out :=
    (List.perm_ext_iff_of_nodup (hn.sublist List.filter_sublist) h2).mpr fun a => by
      rw [List.mem_filter, List.contains_iff_mem]
      exact ⟨And.right, fun h => ⟨h1 a h, h⟩⟩
  have hperm := (List.Perm.append_right _ hin.symm).trans (List.filter_append_perm _ cand)
  -- the arrangement: the delivered rows followed by the omitted candidates
  refine ⟨_, hperm, ?_⟩
  rw [sortBy_append_sorted less out _ h4 fun x hx r hr => ?_]
  · refine applyLimit_eq_of_prefix n out _ (List.prefix_append ..) ?_
    rw [h3, ← hperm.length_eq, List.length_append, List.length_append, length_sortBy]
  · have hr' := List.mem_filter.mp hr
    rcases h5 r hr'.1 with hin | hle
    · simp [hin] at hr'
    · exact hle x hx

theorem nodup_map_of_key {β γ : Type} (f : α → β) (key : α → γ) (look : β → Option γ)
    (h : ∀ a, look (f a) = some (key a)) (l : List α) (hn : (l.map key).Nodup) : (l.map f).Nodup :=
  List.pairwise_map.mpr ((List.pairwise_map.mp hn).imp fun hne e =>
    hne (Option.some.inj ((h _).symm.trans ((congrArg look e).trans (h _)))))

end PostAgg
