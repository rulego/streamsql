/-
The direct pipeline on the configuration the front end produces (`toConfig`) for a well-formed SELECT list:
`projectDirectRow` returns the literal columns followed by the ordinary ones (the row itself for `*` alone),
and `compileOutputNames` accepts the list when its output names are distinct.
-/
import SsqlVerif.Proofs.PipeProject
set_option autoImplicit false

namespace Pipe
open PipeSpec

/-- the column an item contributes -/
def colOf (row : Row) (it : Item) : Str × Value := (outName it, itemValue row it.src)

/-- the `FieldExpressions` entry of a literal item; on other items a dummy that nothing reads -/
def litExpr (it : Item) : FieldExpr :=
  match it.src with
  | .lit s => .lit s
  | _ => .other []

/-- `result[k] = v` for each column of `cols` in turn: what each of the three loops of the projection
(`projectExprs`, `copyAll`, `projectSimple`) does; with distinct keys it appends the list -/
def setAll (cols res : Row) : Row := cols.foldl (fun r kv => setKey kv.1 kv.2 r) res

theorem keysOf_append (a b : Row) : keysOf (a ++ b) = keysOf a ++ keysOf b := by simp [keysOf]

theorem setKey_append_of_not_mem (k : Str) (v : Value) (m : Row) (h : k ∉ keysOf m) :
    setKey k v m = m ++ [(k, v)] := by
  fun_induction setKey k v m with
  | case1 => rfl  -- `[]`
  | case2 v' rest => exact absurd (List.mem_cons_self ..) h  -- key found
  | case3 k' v' rest hk ih => exact congrArg _ (ih fun hm => h (List.mem_cons_of_mem _ hm))  -- other key

theorem setExpr_append_of_not_mem (n : Str) (e : FieldExpr) (m : List (Str × FieldExpr)) (h : n ∉ m.map Prod.fst) :
    setExpr n e m = m ++ [(n, e)] := by
  fun_induction setExpr n e m with
  | case1 => rfl  -- `[]`
  | case2 e' rest => exact absurd (List.mem_cons_self ..) h  -- key found
  | case3 n' e' rest hn ih => exact congrArg _ (ih fun hm => h (List.mem_cons_of_mem _ hm))  -- other key

theorem setAll_nodup (cols res : Row) (hnd : (keysOf res ++ keysOf cols).Nodup) :
    setAll cols res = res ++ cols := by
  induction cols generalizing res with
  | nil => exact (List.append_nil res).symm
  | cons kv rest ih =>
    have hnot : kv.1 ∉ keysOf res := fun hm =>
      (List.nodup_append.mp hnd).2.2 _ hm _ (List.mem_cons_self ..) rfl
    rw [setAll, List.foldl_cons, setKey_append_of_not_mem _ _ _ hnot]
    refine (ih _ ?_).trans (List.append_cons ..).symm
    rw [keysOf_append, List.append_assoc]
    exact hnd

theorem projectExprs_eq (env : Env) (row : Row) (exprs : List (Str × FieldExpr)) (res : Row) :
    projectExprs env row exprs res = setAll (exprs.map fun ne => (ne.1, evalFieldExpr env row ne.2)) res := by
  induction exprs generalizing res with
  | nil => rfl
  | cons ne rest ih => exact ih _

theorem copyAll_eq (cfg : Config) (row res : Row) :
    copyAll cfg row res = setAll (row.filter fun kv => !isExprName cfg kv.1) res := by
  fun_induction copyAll cfg row res with
  | case1 res => rfl  -- `[]`
  | case2 k v rest res ih =>  -- next column
    rw [ih, List.filter_cons]
    cases isExprName cfg k <;> rfl

theorem exprOf_eq (it : Item) : exprOf it = if isLit it then some (outName it, litExpr it) else none := by
  unfold exprOf isLit litExpr
  cases it.src <;> rfl

theorem colOf_of_isLit (env : Env) (row : Row) (it : Item) (hl : isLit it = true) :
    (outName it, evalFieldExpr env row (litExpr it)) = colOf row it := by
  unfold isLit at hl
  unfold litExpr colOf
  cases hs : it.src
  all_goals
    rw [hs] at hl
    first | rfl | cases hl

theorem exprMap_eq (items : List Item) (acc : List (Str × FieldExpr))
    (hnd : (acc.map Prod.fst ++ (items.filter isLit).map outName).Nodup) :
    exprMap items acc = acc ++ (items.filter isLit).map fun it => (outName it, litExpr it) := by
  induction items generalizing acc with
  | nil => exact (List.append_nil acc).symm
  | cons it rest ih =>
    rw [List.filter_cons] at hnd ⊢
    rw [exprMap, exprOf_eq]
    revert hnd
    cases isLit it with
    | false => exact ih acc
    | true =>
      intro hnd
      have hnot : outName it ∉ acc.map Prod.fst := fun hm =>
        (List.nodup_append.mp hnd).2.2 _ hm _ (List.mem_cons_self ..) rfl
      simp only [if_true]
      rw [setExpr_append_of_not_mem _ _ _ hnot, ih]
      · exact (List.append_cons ..).symm
      · rw [List.map_append, List.append_assoc]
        exact hnd

/-- a literal item is an expression field, which `processSimpleField` skips -/
theorem processSimple_item (cfg : Config) (env : Env) (row : Row) (it : Item) (res : Row)
    (hwf : itemWF it = true) (hx : isExprName cfg (outName it) = isLit it) :
    processSimple cfg env row (compileField (simpleSpec it)) res =
      .ok (if isLit it then res else setKey (outName it) (itemValue row it.src) res) := by
  rw [processSimple, compileField_selectAll it hwf, compileField_outputName it hwf, hx]
  cases hl : isLit it with
  | true => rfl
  | false =>
    obtain ⟨hlit, hcall, hval⟩ := compileField_plain it hwf hl row
    rw [hlit, hcall, hval]
    rfl

theorem projectSimple_cons_ok (cfg : Config) (env : Env) (row : Row) (fi : FieldInfo) (rest : List FieldInfo)
    (res res' : Row) (h : processSimple cfg env row fi res = .ok res') :
    projectSimple cfg env row (fi :: rest) res = projectSimple cfg env row rest res' := by
  rw [projectSimple, h]

theorem projectSimple_items (cfg : Config) (env : Env) (row : Row) (items : List Item) (res : Row)
    (hwf : ∀ it ∈ items, itemWF it = true)
    (hexpr : ∀ it ∈ items, isExprName cfg (outName it) = isLit it) :
    projectSimple cfg env row (items.map fun it => compileField (simpleSpec it)) res =
      .ok (setAll ((items.filter fun it => !isLit it).map (colOf row)) res) := by
  induction items generalizing res with
  | nil => rfl
  | cons it rest ih =>
    rw [List.forall_mem_cons] at hwf hexpr
    rw [List.map_cons, projectSimple_cons_ok _ _ _ _ _ _ _ (processSimple_item cfg env row it res hwf.1 hexpr.1),
      ih _ hwf.2 hexpr.2, List.filter_cons]
    cases isLit it <;> rfl

theorem litSplit_map_perm {β : Type} (f : Item → β) (items : List Item) :
    ((items.filter isLit).map f ++ (items.filter fun it => !isLit it).map f).Perm (items.map f) := by
  rw [← List.map_append]
  exact (List.filter_append_perm isLit items).map f

theorem litSplit_outName_nodup (items : List Item) (hnd : (items.map outName).Nodup) :
    ((items.filter isLit).map outName ++ (items.filter fun it => !isLit it).map outName).Nodup :=
  (litSplit_map_perm outName items).nodup_iff.mpr hnd

theorem isExprName_items (cfg : Config) (items : List Item) (hnd : (items.map outName).Nodup)
    (hcfg : cfg.fieldExprs.map Prod.fst = (items.filter isLit).map outName) :
    ∀ it ∈ items, isExprName cfg (outName it) = isLit it := by
  intro it hit
  rw [isExprName, hcfg, List.contains_eq_mem]
  cases hl : isLit it with
  | true => exact decide_eq_true (List.mem_map_of_mem (List.mem_filter.mpr ⟨hit, hl⟩))
  | false =>
    have h2 : outName it ∈ (items.filter fun it => !isLit it).map outName :=
      List.mem_map_of_mem (List.mem_filter.mpr ⟨hit, congrArg not hl⟩)
    exact decide_eq_false fun hm => (List.nodup_append.mp (litSplit_outName_nodup items hnd)).2.2 _ hm _ h2 rfl

theorem toConfig_items (items : List Item) (hstar : isStarOnly items = false)
    (hlit : ((items.filter isLit).map outName).Nodup) :
    toConfig items = { simpleFields := items.map simpleSpec,
                       fieldExprs := (items.filter isLit).map fun it => (outName it, litExpr it) } := by
  rw [toConfig, hstar, exprMap_eq items [] hlit]
  rfl

theorem toConfig_star (items : List Item) (hstar : isStarOnly items = true) :
    toConfig items = { simpleFields := [['*']], fieldExprs := [] } := by
  rw [toConfig, hstar]
  rfl

theorem toConfig_keys (items : List Item) (hstar : isStarOnly items = false)
    (hlit : ((items.filter isLit).map outName).Nodup) :
    (toConfig items).fieldExprs.map Prod.fst = (items.filter isLit).map outName := by
  rw [toConfig_items items hstar hlit, List.map_map]
  rfl

theorem toConfig_fields (items : List Item) (hstar : isStarOnly items = false) :
    (toConfig items).simpleFields.map compileField = items.map fun it => compileField (simpleSpec it) := by
  rw [toConfig, hstar]
  exact List.map_map

theorem projectDirectRow_items (env : Env) (items : List Item) (row : Row)
    (hne : items ≠ []) (hstar : isStarOnly items = false)
    (hwf : ∀ it ∈ items, itemWF it = true) (hnd : (items.map outName).Nodup) :
    projectDirectRow (toConfig items) env row =
      .ok ((items.filter isLit).map (colOf row) ++ (items.filter fun it => !isLit it).map (colOf row)) := by
  have hlit := (List.nodup_append.mp (litSplit_outName_nodup items hnd)).1
  have hexpr := isExprName_items _ items hnd (toConfig_keys items hstar hlit)
  have hlits : (toConfig items).fieldExprs.map (fun ne => (ne.1, evalFieldExpr env row ne.2)) =
      (items.filter isLit).map (colOf row) := by
    rw [toConfig_items items hstar hlit, List.map_map]
    exact List.map_congr_left fun it hit => colOf_of_isLit env row it (List.mem_filter.mp hit).2
  have hsf : (toConfig items).simpleFields ≠ [] := by
    rw [toConfig_items items hstar hlit]
    exact mt List.map_eq_nil_iff.mp hne
  rw [projectDirectRow, if_pos hsf, toConfig_fields items hstar, projectExprs_eq, hlits,
    projectSimple_items _ env row items _ hwf hexpr, setAll, setAll, ← List.foldl_append]
  refine congrArg Except.ok ((setAll_nodup _ [] ?_).trans (List.nil_append _))
  rw [keysOf, keysOf, List.map_append, List.map_map, List.map_map]
  exact litSplit_outName_nodup items hnd

theorem projectDirectRow_star (env : Env) (row : Row) (hrow : (keysOf row).Nodup) :
    projectDirectRow { simpleFields := [['*']], fieldExprs := [] } env row = .ok row := by
  have hf : (row.filter fun kv => !isExprName { simpleFields := [['*']], fieldExprs := [] } kv.1) = row :=
    List.filter_eq_self.mpr fun _ _ => rfl
  show Except.ok (copyAll _ row []) = _
  rw [copyAll_eq, hf, setAll_nodup row [] hrow]
  rfl

theorem checkSimple_items (cfg : Config) (items : List Item) (seen : List Str)
    (hwf : ∀ it ∈ items, itemWF it = true)
    (hexpr : ∀ it ∈ items, isExprName cfg (outName it) = isLit it)
    (hnd : (((items.filter fun it => !isLit it).map outName).reverse ++ seen).Nodup) :
    checkSimple cfg (items.map fun it => compileField (simpleSpec it)) seen =
      .ok (((items.filter fun it => !isLit it).map outName).reverse ++ seen) := by
  induction items generalizing seen with
  | nil => rfl
  | cons it rest ih =>
    rw [List.forall_mem_cons] at hwf hexpr
    rw [List.filter_cons] at hnd ⊢
    rw [List.map_cons, checkSimple, compileField_selectAll it hwf.1, compileField_outputName it hwf.1, hexpr.1]
    revert hnd
    cases isLit it with
    | true => exact ih seen hwf.2 hexpr.2
    | false =>
      intro hnd
      simp only [Bool.not_false, if_true, List.map_cons, List.reverse_cons, List.append_assoc,
        List.singleton_append] at hnd ⊢
      have hnot : outName it ∉ seen := (List.nodup_cons.mp (List.nodup_append.mp hnd).2.1).1
      simp only [Bool.or_self, Bool.false_eq_true, if_false, List.contains_eq_mem, hnot, decide_false]
      exact ih _ hwf.2 hexpr.2 hnd

theorem checkExprs_ok (names seen : List Str) (hnd : (names.reverse ++ seen).Nodup) :
    checkExprs names seen = .ok () := by
  fun_induction checkExprs names seen with
  | case1 => rfl  -- `[]`
  | case2 n rest seen hc =>  -- name seen
    rw [List.reverse_cons, List.append_assoc] at hnd
    exact absurd (List.contains_iff_mem.mp hc) (List.nodup_cons.mp (List.nodup_append.mp hnd).2.1).1
  | case3 n rest seen hc ih =>  -- new name
    rw [List.reverse_cons, List.append_assoc] at hnd
    exact ih hnd

theorem checkOutputNames_items (items : List Item) (hstar : isStarOnly items = false)
    (hwf : ∀ it ∈ items, itemWF it = true) (hnd : (items.map outName).Nodup) :
    checkOutputNames (toConfig items) = .ok () := by
  have hlit := (List.nodup_append.mp (litSplit_outName_nodup items hnd)).1
  have hkeys := toConfig_keys items hstar hlit
  have hsplit : (((items.filter isLit).map outName).reverse ++
      (((items.filter fun it => !isLit it).map outName).reverse ++ [])).Nodup := by
    rw [List.append_nil]
    exact ((List.reverse_perm _).append (List.reverse_perm _)).nodup_iff.mpr (litSplit_outName_nodup items hnd)
  rw [checkOutputNames, toConfig_fields items hstar, hkeys,
    checkSimple_items _ items [] hwf (isExprName_items _ items hnd hkeys) (List.nodup_append.mp hsplit).2.1]
  exact checkExprs_ok _ _ hsplit

end Pipe
