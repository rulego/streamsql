/-
C17 / C09: a global window whose trigger is `COUNT(*) >= n` is a counting window —
every group fires at each n-th of its rows since its last firing, on exactly those n rows.
(The global-window variants of the C03 / C04 correspondence cases rely on this shape.)
-/
import SsqlVerif.Proofs.Global
set_option autoImplicit false

theorem List.snoc_induction {β : Type} {motive : List β → Prop} (nil : motive [])
    (snoc : ∀ l a, motive l → motive (l ++ [a])) (l : List β) : motive l := by
  rw [← List.reverse_reverse l]
  induction l.reverse with
  | nil => exact nil
  | cons a t ih =>
    rw [List.reverse_cons]
    exact snoc _ a ih

namespace Global
open Global.Spec

variable {α κ φ ε : Type} [DecidableEq φ]

def countStar : AggCall φ := ⟨.count, none⟩

def CountGe (q : Query α φ Int) (n : Nat) : Prop := q.pred = .cmp countStar .ge (Int.ofNat n)

theorem aggOf_countStar (seg : List (Row κ φ Int)) :
    aggOf (countStar : AggCall φ) seg = some (Int.ofNat seg.length) := by
  show some (Int.ofNat ((seg.map (cellOf countStar)).filter fun c => !c.isNil).length) = _
  rw [List.filter_eq_self.mpr, List.length_map]
  intro c hc
  obtain ⟨r, _, rfl⟩ := List.mem_map.mp hc
  rfl

theorem engineTrue_countGe (q : Query α φ Int) (n : Nat) (h : CountGe q n) (seg : List (Row κ φ Int)) :
    engineTrue q.pred seg = decide (n ≤ seg.length) := by
  unfold engineTrue
  rw [h]
  show decide (evalLeaf .ge (aggOf countStar seg) (Int.ofNat n) = .ok true) = _
  rw [aggOf_countStar]
  show decide (Res.ok (decide (Int.ofNat n ≤ Int.ofNat seg.length)) = .ok true) = _
  simp only [Res.ok.injEq, decide_eq_true_eq]
  exact decide_eq_decide.mpr Int.ofNat_le

theorem openSeg_lt_of_countGe [DecidableEq κ] [DecidableEq ε] (enc : κ → ε) (q : Query α φ Int) (n : Nat)
    (hn : 0 < n) (h : CountGe q n) (rows : List (Row κ φ Int)) (hK : KeysInj enc rows) (k : κ) :
    (openSeg k (histOf rows (run enc q rows))).length < n := by
  induction rows using List.snoc_induction with
  | nil => exact hn
  | snoc pre r ih =>
    rw [histOf_run_snoc]
    dsimp only [openSeg]
    by_cases hk : r.key = k
    · subst hk
      rw [if_pos rfl, outAt_isSome enc q pre r hK, engineTrue_countGe q n h]
      by_cases hle : n ≤ (segAt enc q pre r).length
      · rw [if_pos (decide_eq_true hle)]
        exact hn
      · rw [if_neg (by simpa using hle)]
        exact Nat.lt_of_not_le hle
    · rw [if_neg hk]
      exact ih hK.prefix

end Global
