/-
C17, whole runs: the model's trace satisfies the trace specification at every null-safe point; a group's
deliveries depend on its own rows only; the trace specification admits one delivery sequence.
-/
import SsqlVerif.Proofs.Global
set_option autoImplicit false

namespace Global
open Spec

variable {α κ φ ε ν : Type}

/-- every evaluation point of the observed trace is null-safe -/
def safeFrom [DecidableEq κ] [DecidableEq φ] [Num ν] (q : Query α φ ν) :
    List (Row κ φ ν × Bool) → List (Row κ φ ν) → List (Option (Result κ ν)) → Bool
  | hist, r :: rows, o :: outs =>
    pointSafe q.pred (openSeg r.key hist ++ [r]) && safeFrom q ((r, o.isSome) :: hist) rows outs
  | _, _, _ => true

/-- `safeFrom` along the engine's own run over `rows` -/
def NullSafe [DecidableEq κ] [DecidableEq φ] [DecidableEq ε] [Num ν] (enc : κ → ε) (q : Query α φ ν)
    (rows : List (Row κ φ ν)) : Bool :=
  safeFrom q [] rows (run enc q rows)

/-- the deliveries at the rows of group `k` -/
def proj [DecidableEq κ] (k : κ) : List (Row κ φ ν) → List (Option (Result κ ν)) → List (Option (Result κ ν))
  | r :: rows, o :: outs => if r.key = k then o :: proj k rows outs else proj k rows outs
  | _, _ => []

theorem valsEq_refl (eqv : ν → ν → Bool) (hrefl : ∀ x, eqv x x = true) (l : List (Option ν)) :
    valsEq eqv l l = true := by
  induction l with
  | nil => rfl
  | cons a l ih => cases a <;> simp [valsEq, optEq, ih, hrefl]

theorem resultVerdict_self [DecidableEq κ] (eqv : ν → ν → Bool) (hrefl : ∀ x, eqv x x = true) (b : Bool)
    (res : Result κ ν) : resultVerdict eqv b res res = .ok := by
  simp [resultVerdict, valsEq_refl eqv hrefl]

section
variable [DecidableEq κ] [DecidableEq φ] [DecidableEq ε] [Num ν] (eqv : ν → ν → Bool) (b : Bool)
  (enc : κ → ε) (q : Query α φ ν)

omit [DecidableEq ε] in
theorem checkFrom_cons (i : Nat) (hist : List (Row κ φ ν × Bool)) (r : Row κ φ ν) (rows : List (Row κ φ ν))
    (o : Option (Result κ ν)) (outs : List (Option (Result κ ν))) :
    checkFrom eqv b q i hist (r :: rows) (o :: outs) = none ↔
      stepVerdict eqv b q (openSeg r.key hist ++ [r]) r o = .ok ∧
      checkFrom eqv b q (i + 1) ((r, o.isSome) :: hist) rows outs = none := by
  by_cases hv : stepVerdict eqv b q (openSeg r.key hist ++ [r]) r o = .ok
  · rw [and_iff_right hv]
    exact iff_of_eq (congrArg (· = none) (if_pos hv))
  · refine ⟨fun h => ?_, fun h => absurd h.1 hv⟩
    cases (if_neg hv).symm.trans h

variable (K : List κ) (hK : InjOn enc K)
include hK

theorem checkFrom_runFrom (hrefl : ∀ x, eqv x x = true) (rows : List (Row κ φ ν))
    (hrows : ∀ r ∈ rows, r.key ∈ K) (i : Nat) (st : State ε κ ν) (hist : List (Row κ φ ν × Bool))
    (hinv : Inv enc q K st hist)
    (hsafe : safeFrom q hist rows (runFrom enc q st rows) = true) :
    checkFrom eqv b q i hist rows (runFrom enc q st rows) = none := by
  induction rows generalizing st hist i with
  | nil => rfl
  | cons r rs ih =>
    obtain ⟨hr, hrs⟩ := List.forall_mem_cons.mp hrows
    obtain ⟨hs, hsafe⟩ := Bool.and_eq_true_iff.mp hsafe
    refine (checkFrom_cons ..).mpr ⟨?_, ih hrs (i + 1) _ _ (inv_step enc q K hK st hist r hinv hr) hsafe⟩
    rw [(step_groupOf enc q st r _ (hinv r.key hr)).1, engineTrue_eq_predTrue _ _ hs, stepVerdict.eq_def]
    cases predTrue q.pred (openSeg r.key hist ++ [r])
    · rfl
    · exact resultVerdict_self eqv hrefl b _

theorem proj_runFrom (k : κ) (hk : k ∈ K) (rows : List (Row κ φ ν)) (hrows : ∀ r ∈ rows, r.key ∈ K)
    (st₁ st₂ : State ε κ ν) (h : st₁ (enc k) = st₂ (enc k)) :
    proj k rows (runFrom enc q st₁ rows) = runFrom enc q st₂ (rows.filter fun r => r.key = k) := by
  induction rows generalizing st₁ st₂ with
  | nil => rfl
  | cons r rs ih =>
    obtain ⟨hr, hrs⟩ := List.forall_mem_cons.mp hrows
    by_cases hkr : r.key = k
    · subst hkr
      obtain ⟨ho, hs⟩ := step_same enc q st₁ st₂ r h
      rw [List.filter_cons, if_pos (decide_eq_true rfl)]
      refine (if_pos rfl).trans ?_
      rw [ho, ih hrs _ _ hs]
      rfl
    · rw [List.filter_cons, if_neg (by simpa using hkr)]
      refine (if_neg hkr).trans (ih hrs _ _ ?_)
      rwa [step_other enc q st₁ r _ fun he => hkr (hK k hk r.key hr he).symm]

end

theorem valsEq_decide_eq [DecidableEq ν] (a b : List (Option ν))
    (h : valsEq (fun x y => decide (x = y)) a b = true) : a = b := by
  fun_induction valsEq (fun x y => decide (x = y)) a b with
  | case1 => rfl
  | case2 x xs y ys ih =>
    obtain ⟨hxy, h⟩ := Bool.and_eq_true_iff.mp h
    rw [ih h]
    cases x <;> cases y
    · rfl
    · cases hxy
    · cases hxy
    · rw [of_decide_eq_true hxy]
  | case3 => cases h

section
variable [DecidableEq κ] [DecidableEq ν]

theorem resultVerdict_ok_eq (want got : Result κ ν)
    (h : resultVerdict (fun x y => decide (x = y)) true want got = .ok) : got = want := by
  revert h
  fun_cases resultVerdict (fun x y => decide (x = y)) true want got with
  | case1 | case2 | case3 => nofun
  | case4 hk hv hb =>
    intro _
    obtain ⟨k, v, s, e⟩ := got
    obtain ⟨k', v', s', e'⟩ := want
    obtain rfl : k = k' := Decidable.not_not.mp hk
    obtain rfl : v = v' := valsEq_decide_eq v v' (by simpa using hv)
    obtain ⟨rfl, rfl⟩ : s = s' ∧ e = e' := by simpa using hb
    rfl

variable [DecidableEq φ] [Num ν] (q : Query α φ ν)

theorem stepVerdict_ok (seg : List (Row κ φ ν)) (r : Row κ φ ν) (o : Option (Result κ ν))
    (h : stepVerdict (fun x y => decide (x = y)) true q seg r o = .ok) :
    o = if predTrue q.pred seg then some (expected q seg r) else none := by
  revert h
  fun_cases stepVerdict (fun x y => decide (x = y)) true q seg r o with
  | case1 hp => nofun -- TRUE, nothing delivered
  | case2 hp => exact fun _ => (if_neg hp).symm
  | case3 res hp => exact fun h => (congrArg some (resultVerdict_ok_eq _ _ h)).trans (if_pos hp).symm
  | case4 res hp => nofun -- delivered, not TRUE

theorem checkFrom_unique (rows : List (Row κ φ ν)) (i : Nat) (hist : List (Row κ φ ν × Bool))
    (outs₁ outs₂ : List (Option (Result κ ν)))
    (hl₁ : outs₁.length = rows.length) (hl₂ : outs₂.length = rows.length)
    (h₁ : checkFrom (fun x y => decide (x = y)) true q i hist rows outs₁ = none)
    (h₂ : checkFrom (fun x y => decide (x = y)) true q i hist rows outs₂ = none) : outs₁ = outs₂ := by
  induction rows generalizing i hist outs₁ outs₂ with
  | nil => rw [List.eq_nil_of_length_eq_zero hl₁, List.eq_nil_of_length_eq_zero hl₂]
  | cons r rs ih =>
    obtain ⟨o₁, t₁, rfl⟩ := List.exists_cons_of_length_eq_add_one hl₁
    obtain ⟨o₂, t₂, rfl⟩ := List.exists_cons_of_length_eq_add_one hl₂
    obtain ⟨hv₁, h₁⟩ := (checkFrom_cons ..).mp h₁
    obtain ⟨hv₂, h₂⟩ := (checkFrom_cons ..).mp h₂
    obtain rfl := (stepVerdict_ok q _ r o₁ hv₁).trans (stepVerdict_ok q _ r o₂ hv₂).symm
    rw [ih (i + 1) _ t₁ t₂ (Nat.succ.inj hl₁) (Nat.succ.inj hl₂) h₁ h₂]

end

end Global
