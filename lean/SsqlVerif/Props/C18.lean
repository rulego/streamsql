/-
C18 — lifecycle operations are safe under any interleaving and Stop is a barrier.
Every statement is about `Reach c p s`: any state the protocol of `Model/Lifecycle` reaches from its initial
state, for any number of sink workers, EmitSync callers and Stop callers, any registered sinks (plain,
panicking, re-entrant), any pool size and any interleaving of their code segments with Emit and AddSink.
Data races, goroutine leaks and Stop's grace period as wall time cannot be expressed in the model and are
outside every theorem here (see cfg/C18.py).
-/
import SsqlVerif.Proofs.LifecycleFacts
import SsqlVerif.Generated.Facts
set_option autoImplicit false

namespace C18
open Lifecycle

theorem run_reaches (c : Cfg) (p : Params) (sched : List (Tid × Wit)) :
    Reach c p (run c (init c p.nworkers p.ncallers p.nstops p.asyncs p.syncs) sched) :=
  run_reach c p sched _ Reach.init

/-- **Stop is idempotent.** However many Stop calls race, at most one of them performs the teardown, and a
Stop call on a stopped stream changes nothing but its own program counter (`stepStop` ignores the witness). -/
theorem stop_idempotent (c : Cfg) (p : Params) (s : State) (h : Reach c p s) :
    s.stops.countP (fun pc => inTeardown pc) ≤ 1 ∧
    (∀ k : Nat, s.stopped = true → s.stops[k]? = some .sIdle →
      step c s (.stop k) .data = some { s with stops := s.stops.set k .sNoop }) := by
  refine ⟨(linv_reach h).1.st.one, fun k hst hk => ?_⟩
  show stepStop s k = _
  unfold stepStop
  rw [hk]
  exact if_pos hst

/-- **Emit after Stop is a silent no-op.** Once a Stop call has returned, an Emit call changes nothing but the
row counter; with the block and expand strategies already from the moment the flag is set. -/
theorem emit_after_stop_noop (c : Cfg) (p : Params) (s : State) (h : Reach c p s) :
    (s.stopReturned = true → ∀ pn w, step c s (.emit pn) w = some { s with nextId := s.nextId + 2 }) ∧
    (c.dropStrat = false → s.stopped = true → ∀ pn w, step c s (.emit pn) w = some { s with nextId := s.nextId + 2 }) := by
  have hinv := (linv_reach h).1
  have refused : ∀ pn w, emitRefused c s w = true → step c s (.emit pn) w = some { s with nextId := s.nextId + 2 } :=
    fun pn w hr => if_pos hr
  constructor
  · intro hr pn w
    obtain ⟨k, hk⟩ := hinv.st.returned hr
    have hn := stopsOk_chanNil hinv.st hk rfl
    refine refused pn w ?_
    rw [emitRefused, hn]
    rfl
  · intro hd hst pn w
    refine refused pn w ?_
    rw [emitRefused, hd, hst]
    exact Bool.or_true _

/-- **Stop is a barrier.** Once a Stop call is past `waitLifecycle` with the counter at zero (Go's wait also
gives up after `defaultStopGrace`; that path is not modelled), the data processor and every sink worker have
exited and no EmitSync call is inside the instance, so no thread can invoke a sink; and no sink invocation in
the whole history happened after that Stop call returned. -/
theorem stop_barrier (c : Cfg) (p : Params) (s : State) (h : Reach c p s) (hg : c.syncGuard = true) :
    (∀ (k : Nat) (pc : SPC), s.stops[k]? = some pc → pastJoin pc = true →
      s.eng.alive = false ∧ s.eng.act = .idle ∧ (∀ t ∈ s.workers, t.alive = false ∧ t.act = .idle) ∧
      (∀ t ∈ s.callers, t.act = .idle)) ∧
    (∀ e ∈ s.log, e.afterStop = false) := by
  obtain ⟨hinv, hq⟩ := linv_reach h
  refine ⟨?_, hq hg⟩
  intro k pc hk hp
  obtain ⟨h1, h2, h3, h4⟩ := quiescent_after_join hinv hk hp
  exact ⟨h1, h2, h3, h4 hg⟩

/-- the second half of `stop_barrier` for every configuration; its refutation says that some configuration fails -/
def stop_barrier_unguarded_full : Prop :=
  ∀ (c : Cfg) (p : Params) (s : State), Reach c p s → ∀ e ∈ s.log, e.afterStop = false

def origCfg : Cfg := { copySinks := false, syncGuard := false, qcap := 1, dropStrat := true }
def demoParams (asyncs syncs : List Kind) : Params :=
  { nworkers := 1, ncallers := 1, nstops := 2, asyncs := asyncs, syncs := syncs }

/-- Stop runs to completion, then EmitSync is called: its sync sink is invoked -/
def lateSyncSched : List (Tid × Wit) :=
  [(.stop 0, .data), (.stop 0, .data), (.eng, .done), (.worker 0, .done), (.stop 0, .data), (.stop 0, .data),
   (.stop 0, .data), (.stop 0, .data), (.caller 0, .data), (.caller 0, .data), (.caller 0, .data)]

/-- **Without the guard, EmitSync invokes sinks after Stop has returned** (negation witness:
the behaviour the check found in the code as it was, `corpus/C18/emitsync-after-stop.ops`). -/
theorem stop_barrier_unguarded_fails : ¬ stop_barrier_unguarded_full := by
  intro h
  have := h origCfg (demoParams [] [.plain]) _ (run_reaches origCfg (demoParams [] [.plain]) lateSyncSched)
    { batch := 0, afterStop := true }
  revert this
  decide +kernel

/-- **A panicking sink or row is contained.** For the protocol a panicking sink is a plain sink: by construction,
`actStep` has one arm for both kinds, which is how the model records the per-sink `recover`. A panicking row
leaves the data processor alive in its loop. -/
theorem sink_panic_contained (c : Cfg) (s : State) :
    (∀ b as ss held, actStep c s (.body b .panics as ss held) = actStep c s (.body b .plain as ss held)) ∧
    (∀ r rest, s.eng.alive = true → s.eng.act = .idle → s.buf = r :: rest → rowPanicsB r = true →
      ∃ s', step c s .eng .data = some s' ∧ s'.eng = s.eng ∧ s'.life = s.life ∧ s'.buf = rest) := by
  constructor
  · exact fun b as ss held => rfl
  · intro r rest ha hi hb hp
    refine ⟨{ s with buf := rest, rowPanics := s.rowPanics ++ [r] }, ?_, rfl, rfl, rfl⟩
    simp [step, stepEng, ha, hi, hb, hp]

/-- **No self-deadlock on a re-entrant sink** (the repaired dispatch). `sinksMux` is never held across a sink
invocation: at every step boundary the reader count is zero and no thread waits for the write lock while
holding the read lock, so `AddSink`, from a sink or from anywhere, is always enabled. -/
theorem no_self_deadlock_on_reentrant_sink (c : Cfg) (p : Params) (s : State) (h : Reach c p s)
    (hc : c.copySinks = true) :
    s.rd = 0 ∧ (stepAddSink s).isSome = true ∧
    (∀ b as ss held, (actStep c s (.wantW b as ss held)).isSome = true) ∧
    (∀ t ∈ allThreads s, selfWait t.act = false) := by
  have hinv := (linv_reach h).1
  have hrd : s.rd = 0 := hinv.rd.trans (hinv.copy hc)
  refine ⟨hrd, ?_, fun b as ss held => ?_, fun t ht => not_selfWait_of_copy hinv hc ht⟩
  · rw [stepAddSink, if_pos hrd]
    rfl
  · rw [actStep, if_pos hrd]
    rfl

/-- the last clause of `no_self_deadlock_on_reentrant_sink` for every configuration; refuted likewise -/
def no_self_deadlock_holding_full : Prop :=
  ∀ (c : Cfg) (p : Params) (s : State), Reach c p s → ∀ t ∈ allThreads s, selfWait t.act = false

/-- EmitSync dispatches to a sync sink that calls AddSink -/
def reentrantSched : List (Tid × Wit) := [(.caller 0, .data), (.caller 0, .data), (.caller 0, .data)]

/-- **Holding the read lock across the sink call deadlocks a re-entrant sink** (negation witness:
the behaviour the check found in the code as it was, `corpus/C18/reentrant-addsink.ops`). -/
theorem no_self_deadlock_holding_fails : ¬ no_self_deadlock_holding_full := by
  intro h
  have := h origCfg (demoParams [] [.adds]) _ (run_reaches origCfg (demoParams [] [.adds]) reentrantSched)
  revert this
  decide +kernel

/-- A thread that waits for the sink write lock while holding the read lock has no enabled step in any reachable
state: only it could release the lock. -/
theorem self_wait_is_stuck (c : Cfg) (p : Params) (s : State) (h : Reach c p s) (t : Thread)
    (ht : t ∈ allThreads s) (hw : selfWait t.act = true) : actStep c s t.act = none :=
  selfWait_stuck (linv_reach h).1 ht hw

def fixedCfg : Cfg := { copySinks := true, syncGuard := true, qcap := 1, dropStrat := true }

/-- repaired: the re-entrant sink registers its sink and the call returns -/
example : (run fixedCfg (init fixedCfg 1 1 2 [] [.adds]) (reentrantSched ++ [(.caller 0, .data)])).asyncSinks = [.plain] ∧
    ((run fixedCfg (init fixedCfg 1 1 2 [] [.adds]) (reentrantSched ++ [(.caller 0, .data)])).callers.map (·.act)) =
      [.idle] := by
  decide +kernel

/-- unrepaired: the caller sits at `wantW` holding the read lock -/
example : ((run origCfg (init origCfg 1 1 2 [] [.adds]) reentrantSched).callers.map (·.act)) = [.wantW 0 [] [] true] := by
  decide +kernel

/-- repaired: EmitSync after Stop is refused, nothing is logged -/
example : (run fixedCfg (init fixedCfg 1 1 2 [] [.plain]) lateSyncSched).refused = [0, 2, 4] ∧
    (run fixedCfg (init fixedCfg 1 1 2 [] [.plain]) lateSyncSched).log = [] := by
  decide +kernel

/-- unrepaired: the sink runs after Stop returned -/
example : (run origCfg (init origCfg 1 1 2 [] [.plain]) lateSyncSched).log = [{ batch := 0, afterStop := true }] := by
  decide +kernel

/-- the barrier hypothesis is satisfiable: Stop gets past the join -/
example : (run fixedCfg (init fixedCfg 1 1 2 [] [.plain]) lateSyncSched).stops = [.sRet, .sIdle] := by
  decide +kernel

/-- a row reaches a panicking and a plain sink, the processor is back in its loop -/
example : (run fixedCfg (init fixedCfg 1 1 2 [] [.panics, .plain])
    [(.emit false, .data), (.eng, .data), (.eng, .data), (.eng, .data), (.eng, .data)]).log.length = 2 ∧
    (run fixedCfg (init fixedCfg 1 1 2 [] [.panics, .plain])
    [(.emit false, .data), (.eng, .data), (.eng, .data), (.eng, .data), (.eng, .data)]).eng =
      { act := .idle, alive := true, joined := false } := by
  decide +kernel

end C18

/-! Constants of the Go source, read from the repository by factsgen: `Stop`'s grace period (5 s in ns; not
modelled), `startSinkWorkerPool`'s `workerCount <= 0`, default 8 and loop start (`nworkers` is free in the model),
`Stop`'s `CompareAndSwapInt32(&s.stopped, 0, 1)`. No definition of the model refers to them. -/
theorem C18.facts_lifecycle :
    Facts.stream_defaultStopGrace = 5000000000 ∧
    Facts.stream_Stream_startSinkWorkerPool_intlits = [0, 8, 0] ∧
    Facts.stream_Stream_Stop_intlits = [0, 1] := by decide +kernel
