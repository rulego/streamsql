/-
The sliding model with ALLOWEDLATENESS > 0, run level (C02): in every reachable state every interval delivered so
far is still registered for late rows (`Reg`), or its allowance lies at or below the watermark.
-/
import SsqlVerif.Proofs.SlidingLate
set_option autoImplicit false

namespace SlidingLate
open Wm Tumbling Sliding

/-- what the trigger loop reads is at or below the watermark -/
structure WmInv (s : SWL) : Prop where
  htrig : ∀ w, s.base.trigW = some w → leOpt w s.base.wm.cur
  hchan : ∀ w ∈ s.base.wm.chan, leOpt w s.base.wm.cur

theorem wmInv_init (size slide ooo lateness : Int) : WmInv (init size slide ooo lateness) :=
  ⟨fun _ h => (nomatch h), fun _ h => (nomatch h)⟩

theorem addBase_wm (s : SWL) (r : Row) (now : Int) :
    (addBase s r now).wm = Sliding.wmAfter s.base r now ∧ (addBase s r now).trigW = s.base.trigW := by
  unfold addBase
  split <;> exact ⟨rfl, rfl⟩

theorem step_move (s : SWL) (op : Sliding.Op) : Move s.base.wm (step s op).1.base.wm := by
  cases op with
  | add r now =>
    show Move _ (addBase s r now).wm
    rw [(addBase_wm s r now).1]
    exact .update _ _ _
  | addNoTs => exact .stay _
  | tick idle now => exact .tick _ _ _
  | pop => exact Sliding.step_move s.base .pop
  | iter =>
    show Move _ (stepIter s).1.base.wm
    rw [(stepIter_base s).1]
    exact Sliding.step_move s.base .iter

theorem wmInv_step (s : SWL) (op : Sliding.Op) (h : WmInv s) : WmInv (step s op).1 := by
  have hb : Below s.base.trigW s.base.wm := ⟨h.htrig, h.hchan⟩
  suffices Below (step s op).1.base.trigW (step s op).1.base.wm from ⟨this.1, this.2⟩
  cases op with
  | add r now =>
    show Below (addBase s r now).trigW (addBase s r now).wm
    rw [(addBase_wm s r now).1, (addBase_wm s r now).2]
    exact hb.move (.update _ _ _)
  | addNoTs => exact hb
  | tick idle now => exact hb.move (.tick _ _ _)
  | pop => exact Sliding.below_step s.base .pop hb
  | iter =>
    show Below (stepIter s).1.base.trigW (stepIter s).1.base.wm
    rw [(stepIter_base s).1]
    exact Sliding.below_step s.base .iter hb

/-- `f` is the registration of the delivered interval `e` -/
def RegFor (lat : Int) (e : Emission) (f : Fired) : Prop := f.start = e.start ∧ f.close = e.stop + lat

/-- every first delivery among `es` is registered in `s`, or its allowance is at or below the watermark -/
def Reg (s : SWL) (es : List Emission) : Prop :=
  ∀ e ∈ es, e.kind = .first →
    (∃ f ∈ s.fired, RegFor s.lateness e f) ∨ leOpt (e.stop + s.lateness) s.base.wm.cur

theorem updFired_keeps (s : SWL) (ts : List Fired) (r : Row) (lat : Int) (e : Emission)
    (h : ∃ f ∈ s.fired, RegFor lat e f) : ∃ f ∈ updFired s ts r, RegFor lat e f := by
  obtain ⟨f, hf, hr⟩ := h
  unfold updFired
  by_cases ht : isTarget ts f = true
  · exact ⟨{ f with snap := lateRows s f r }, List.mem_map.mpr ⟨f, hf, by simp [ht]⟩, hr⟩
  · exact ⟨f, List.mem_map.mpr ⟨f, hf, by simp [ht]⟩, hr⟩

theorem reg_iter (s : SWL) (es : List Emission) (hi : WmInv s) (hl : 0 < s.lateness) (h : Reg s es) :
    Reg (stepIter s).1 (es ++ (stepIter s).2) := by
  obtain ⟨h1, h2, h3, h4⟩ := stepIter_base s
  intro e he hk
  rw [h3, h1, (Sliding.stepIter_frame s.base).1]
  rw [h2] at he
  rcases h4 with hf | ⟨w, ht, hnil, hf⟩ | ⟨hnil, hf⟩ <;> rw [hf]
  · -- a window fires (or is skipped): everything registered stays, the fired one is appended
    unfold register
    rw [if_pos hl]
    rcases List.mem_append.mp he with he | he
    · exact (h e he hk).imp_left fun ⟨f, hf, hr⟩ => ⟨f, List.mem_append_left _ hf, hr⟩
    · exact Or.inl ⟨_, List.mem_append_right _ (List.mem_map_of_mem he), rfl, rfl⟩
  · -- end of the pass: entries whose allowance the delivered watermark has reached are dropped
    rw [hnil, List.append_nil] at he
    rcases h e he hk with ⟨f, hf, hr⟩ | hb
    · by_cases hc' : f.close ≤ w
      · obtain ⟨y, hy, hwy⟩ := hi.htrig w ht
        refine Or.inr ⟨y, hy, ?_⟩
        rw [← hr.2]
        exact Int.le_trans hc' hwy
      · exact Or.inl ⟨f, List.mem_filter.mpr ⟨hf, by simpa using hc'⟩, hr⟩
    · exact Or.inr hb
  · rw [hnil, List.append_nil] at he
    exact h e he hk

theorem reg_step (s : SWL) (op : Sliding.Op) (es : List Emission) (hi : WmInv s) (hl : 0 < s.lateness) (h : Reg s es) :
    Reg (step s op).1 (es ++ (step s op).2) := by
  intro e he hk
  cases op with
  | iter => exact reg_iter s es hi hl h e he hk
  | add r now =>
    -- an Add keeps every registration (it only extends snapshots) and delivers late results only
    rcases List.mem_append.mp he with he | he
    · exact (h e he hk).imp (updFired_keeps s _ r s.lateness e) (step_move s (.add r now)).mono
    · obtain ⟨_, _, hk', _⟩ := late_emissions s r now none e he
      rw [hk'] at hk
      cases hk
  | _ => exact (h e ((List.append_nil es) ▸ he) hk).imp_right (step_move s _).mono

theorem wmInv_run (s : SWL) (ops : List Sliding.Op) (h : WmInv s) : WmInv (run s ops).1 := by
  induction ops generalizing s with
  | nil => exact h
  | cons op ops ih => exact ih _ (wmInv_step s op h)

theorem run_lateness (s : SWL) (ops : List Sliding.Op) : (run s ops).1.lateness = s.lateness := by
  induction ops generalizing s with
  | nil => rfl
  | cons op ops ih => exact (ih _).trans (step_lateness s op)

theorem reg_run (s : SWL) (ops : List Sliding.Op) (es : List Emission) (hi : WmInv s) (hl : 0 < s.lateness) (h : Reg s es) :
    Reg (run s ops).1 (es ++ (run s ops).2) := by
  induction ops generalizing s es with
  | nil => exact (List.append_nil es).symm ▸ h
  | cons op ops ih =>
    have := ih (step s op).1 (es ++ (step s op).2) (wmInv_step s op hi) ((step_lateness s op).symm ▸ hl)
      (reg_step s op es hi hl h)
    rwa [List.append_assoc] at this

end SlidingLate
