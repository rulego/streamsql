/-
The lexer model by itself: byte classes as ranges, what the readers answer (a prefix of the input and
its length), progress, `lexAll` as the `NextToken` loop; then what the layout theorems use: whitespace
in front of a token is skipped, and a reader stops where its class of bytes stops.
-/
import SsqlVerif.Model.Lexer
set_option autoImplicit false

namespace Lexer

theorem isLower_range {b : Byte} : isLower b = true ↔ 97 ≤ b ∧ b ≤ 122 := by simp [isLower]
theorem isUpper_range {b : Byte} : isUpper b = true ↔ 65 ≤ b ∧ b ≤ 90 := by simp [isUpper]
theorem isDigit_range {b : Byte} : isDigit b = true ↔ 48 ≤ b ∧ b ≤ 57 := by simp [isDigit]

theorem isLetter_range {b : Byte} : isLetter b = true ↔ (97 ≤ b ∧ b ≤ 122) ∨ (65 ≤ b ∧ b ≤ 90) ∨ b = 95 := by
  simp [isLetter, isLower, isUpper, or_assoc]

theorem isNumChar_iff {b : Byte} : isNumChar b = true ↔ isDigit b = true ∨ b = 46 := by simp [isNumChar]

theorem isIdentChar_iff {b : Byte} : isIdentChar b = true ↔ isLetter b = true ∨ isNumChar b = true := by
  simp [isIdentChar, isNumChar, or_assoc]

theorem isWs_cases {c : Byte} (h : isWs c = true) : c = 32 ∨ c = 9 ∨ c = 10 ∨ c = 13 := by
  simpa [isWs, or_assoc] using h

theorem not_letter_of_digit {b : Byte} (h : isDigit b = true) : isLetter b = false := by
  rw [Bool.eq_false_iff, ne_eq, isLetter_range]
  have := isDigit_range.1 h
  omega

theorem isLetter_of_lower {b : Byte} (h : isLower b = true) : isLetter b = true := by simp [isLetter, h]
theorem isLetter_of_upper {b : Byte} (h : isUpper b = true) : isLetter b = true := by simp [isLetter, h]

theorem not_lower_of_upper {b : Byte} (h : isUpper b = true) : isLower b = false := by
  rw [Bool.eq_false_iff, ne_eq, isLower_range]
  have := isUpper_range.1 h
  omega

theorem punct_ne_ws (b : Byte) : punct b ≠ .ws := by
  fun_cases punct b <;> exact Start.noConfusion

theorem byte_of_startOf (b : Byte) :
    match startOf b with
    | .letter => isLetter b = true
    | .digit => isDigit b = true
    | .minus => b = 45
    | .bang => b = 33
    | _ => True := by
  unfold startOf
  by_cases h1 : isLetter b = true
  · rwa [if_pos h1]
  by_cases h2 : isDigit b = true
  · rwa [if_neg h1, if_pos h2]
  by_cases h3 : isWs b = true
  · rw [if_neg h1, if_neg h2, if_pos h3]
    trivial
  · rw [if_neg h1, if_neg h2, if_neg h3]
    fun_cases punct b <;> simp

theorem startOf_of_letter {b : Byte} (h : isLetter b = true) : startOf b = .letter := by
  simp [startOf, h]

theorem startOf_of_digit {b : Byte} (h : isDigit b = true) : startOf b = .digit := by
  simp [startOf, h, not_letter_of_digit h]

theorem startOf_of_ws {b : Byte} (h : isWs b = true) : startOf b = .ws := by
  rcases isWs_cases h with h | h | h | h
  all_goals
    subst h
    rfl

theorem nextIsEq_cons {rest : List Byte} (h : nextIsEq rest = true) : ∃ r, rest = 61 :: r := by
  unfold nextIsEq at h
  split at h
  · exact ⟨_, rfl⟩
  · cases h

theorem closedBy_cons {q : Byte} {l : List Byte} (h : closedBy q l = true) : ∃ r, l = q :: r := by
  cases l with
  | nil => cases h
  | cons c r => exact ⟨r, by rw [beq_iff_eq.1 h]⟩

theorem wordKind_ne_eof (w : List Byte) : wordKind w ≠ .eof := by
  unfold wordKind wordKindIn
  split <;> simp

/-- A reader's answer on input `s`: the token's value is a prefix of `s`, the count is its length, and
only the EOF token is empty (the clause `nextToken_pos` needs). -/
def Reads (s : List Byte) (r : Token × Nat) : Prop :=
  r.1.val <+: s ∧ r.2 = r.1.val.length ∧ (r.1.kind ≠ .eof → r.1.val ≠ [])

theorem reads_eof (s : List Byte) : Reads s (eofTok, 0) :=
  ⟨List.nil_prefix, rfl, fun h => absurd rfl h⟩

theorem reads_cons {b : Byte} {s v : List Byte} (k : Kind) (h : v <+: s) :
    Reads (b :: s) (⟨k, b :: v⟩, v.length + 1) :=
  ⟨List.cons_prefix_cons.2 ⟨rfl, h⟩, rfl, fun _ => List.cons_ne_nil _ _⟩

theorem reads_minusAt (rest : List Byte) : Reads (45 :: rest) (minusAt rest) := by
  fun_cases minusAt rest
  · exact reads_cons _ (List.takeWhile_prefix _)
  · exact reads_cons _ List.nil_prefix

theorem reads_cmpAt (b : Byte) (k1 k2 : Kind) (rest : List Byte) : Reads (b :: rest) (cmpAt b k1 k2 rest) := by
  fun_cases cmpAt b k1 k2 rest
  · obtain ⟨r, rfl⟩ := nextIsEq_cons ‹_›
    exact reads_cons _ ⟨r, rfl⟩
  · exact reads_cons _ List.nil_prefix

theorem reads_bangAt (rest : List Byte) : Reads (33 :: rest) (bangAt rest) := by
  fun_cases bangAt rest
  · obtain ⟨r, rfl⟩ := nextIsEq_cons ‹_›
    exact reads_cons _ ⟨r, rfl⟩
  · exact reads_eof _

theorem reads_quotedAt (k : Kind) (q : Byte) (rest : List Byte) : Reads (q :: rest) (quotedAt k q rest) := by
  fun_cases quotedAt k q rest
  · obtain ⟨r, hr⟩ := closedBy_cons ‹_›
    rw [show (rest.takeWhile (inLiteral q)).length + 2 = (rest.takeWhile (inLiteral q) ++ [q]).length + 1 by simp]
    refine reads_cons _ ⟨r, ?_⟩
    rw [List.append_assoc, List.singleton_append, ← hr, List.takeWhile_append_dropWhile]
  · exact reads_cons _ (List.takeWhile_prefix _)

/-- `readIdentifier`, `readNumber` -/
theorem reads_takeWhile (k : Kind) (p : Byte → Bool) {b : Byte} (rest : List Byte) (hb : p b = true) :
    Reads (b :: rest) (⟨k, (b :: rest).takeWhile p⟩, ((b :: rest).takeWhile p).length) := by
  rw [List.takeWhile_cons_of_pos hb]
  exact reads_cons _ (List.takeWhile_prefix _)

theorem reads_tokenAt (s : List Byte) : Reads s (tokenAt s) := by
  cases s with
  | nil => exact reads_eof _
  | cons b rest =>
    have hb := byte_of_startOf b
    simp only [tokenAt]
    split <;> simp only [*] at hb
    · exact reads_eof _  -- eof
    · exact reads_cons _ List.nil_prefix  -- op1
    · subst hb  -- minus
      exact reads_minusAt rest
    · exact reads_cmpAt b _ _ rest  -- cmp
    · subst hb  -- bang
      exact reads_bangAt rest
    · exact reads_quotedAt _ b rest  -- quote
    · exact reads_quotedAt _ b rest  -- backtick
    · exact reads_takeWhile _ _ rest (isIdentChar_iff.2 (.inl hb))  -- letter
    · exact reads_takeWhile _ _ rest (isNumChar_iff.2 (.inl hb))  -- digit
    · exact reads_eof _  -- ws
    · exact reads_eof _  -- invalid

theorem junkLen_le (s : List Byte) : junkLen s ≤ s.length := by
  fun_induction junkLen s with
  | case1 => exact Nat.le_refl _
  | case2 b rest _ ih => exact Nat.succ_le_succ ih  -- junk byte
  | case3 => exact Nat.zero_le _  -- token starts

theorem nextToken_le (s : List Byte) : (nextToken s).2 ≤ s.length := by
  have ⟨hp, hn, _⟩ := reads_tokenAt (s.drop (junkLen s))
  refine Nat.add_le_of_le_sub' (junkLen_le s) ?_
  rw [hn, ← List.length_drop]
  exact hp.length_le

theorem nextToken_pos (s : List Byte) (h : (nextToken s).1.kind ≠ .eof) : 1 ≤ (nextToken s).2 := by
  have ⟨_, hn, hv⟩ := reads_tokenAt (s.drop (junkLen s))
  refine Nat.le_trans ?_ (Nat.le_add_left _ _)
  rw [hn]
  exact List.length_pos_iff.2 (hv h)

theorem nextToken_slice (s : List Byte) :
    s.take (nextToken s).2 = s.take (junkLen s) ++ (nextToken s).1.val := by
  have ⟨hp, hn, _⟩ := reads_tokenAt (s.drop (junkLen s))
  simp only [nextToken]
  rw [List.take_add, hn, ← List.prefix_iff_eq_take.1 hp]

theorem lexAux_drop (n : Nat) (s : List Byte) : lexAux n s = lexAux 0 (s.drop n) := by
  induction n generalizing s with
  | zero => rfl
  | succ n ih =>
    cases s with
    | nil => rfl
    | cons b rest => exact ih rest

theorem lexAll_unfold (s : List Byte) :
    lexAll s = if (nextToken s).1.kind = .eof then [eofTok]
               else (nextToken s).1 :: lexAll (s.drop (nextToken s).2) := by
  cases s with
  | nil => rfl
  | cons b rest =>
    unfold lexAll
    rw [lexAux]
    split
    · rfl
    · have hp := nextToken_pos (b :: rest) ‹_›
      rw [lexAux_drop, ← List.drop_succ_cons (a := b), Nat.sub_add_cancel hp]

/-- `lexAux` recurses on the input, so this needs no progress argument. -/
theorem lexAux_shape (n : Nat) (s : List Byte) :
    ∃ ts, lexAux n s = ts ++ [eofTok] ∧ (∀ t ∈ ts, t.kind ≠ .eof) ∧ ts.length ≤ s.length := by
  fun_induction lexAux n s with
  | case1 | case3 => exact ⟨[], rfl, fun _ h => absurd h List.not_mem_nil, Nat.zero_le _⟩  -- end, EOF
  | case2 n b rest ih =>  -- inside a token
    obtain ⟨ts, h1, h2, h3⟩ := ih
    exact ⟨ts, h1, h2, Nat.le_succ_of_le h3⟩
  | case4 b rest hk ih =>  -- a token
    obtain ⟨ts, h1, h2, h3⟩ := ih
    exact ⟨_ :: ts, congrArg _ h1, List.forall_mem_cons.2 ⟨hk, h2⟩, Nat.succ_le_succ h3⟩

theorem junkLen_ws_append (pre X : List Byte) (h : ∀ c ∈ pre, isWs c = true) :
    junkLen (pre ++ X) = pre.length + junkLen X := by
  induction pre with
  | nil => simp
  | cons c pre ih =>
    have hc : isJunkAt c (pre ++ X) = true := by simp [isJunkAt, startOf_of_ws (h c (by simp))]
    simp only [List.cons_append, junkLen, hc, if_true, ih (fun c hc => h c (by simp [hc])), List.length_cons]
    exact Nat.add_right_comm _ _ _

theorem tokenAt_junk {b : Byte} {rest : List Byte} (h : isJunkAt b rest = true) :
    tokenAt (b :: rest) = (eofTok, 0) := by
  revert h
  fun_cases isJunkAt b rest
  case case1 hs | case2 hs =>  -- whitespace, invalid byte
    intro _
    simp only [tokenAt, hs]
  case case3 hs =>  -- `!`
    intro h
    simp_all [tokenAt, bangAt]
  case case4 => exact nofun

theorem junkLen_eq_zero_of_tokenAt {s : List Byte} (h : (tokenAt s).1.kind ≠ .eof) : junkLen s = 0 := by
  fun_cases junkLen s
  case case1 => rfl
  case case2 hj =>  -- junk byte
    rw [tokenAt_junk hj] at h
    exact absurd rfl h
  case case3 => rfl

theorem nextToken_ws_append (pre X : List Byte) (h : ∀ c ∈ pre, isWs c = true) (hX : junkLen X = 0) :
    nextToken (pre ++ X) = ((tokenAt X).1, pre.length + (tokenAt X).2) := by
  simp [nextToken, junkLen_ws_append pre X h, hX]

theorem lexAll_step (pre X : List Byte) (hp : ∀ c ∈ pre, isWs c = true) (h : (tokenAt X).1.kind ≠ .eof) :
    lexAll (pre ++ X) = (tokenAt X).1 :: lexAll (X.drop (tokenAt X).2) := by
  rw [lexAll_unfold, nextToken_ws_append pre X hp (junkLen_eq_zero_of_tokenAt h), if_neg h, ← List.drop_drop,
    List.drop_left]

theorem lexAll_allWs (s : List Byte) (h : ∀ c ∈ s, isWs c = true) : lexAll s = [eofTok] := by
  have := nextToken_ws_append s [] h rfl
  rw [List.append_nil] at this
  rw [lexAll_unfold, this]
  rfl

/-- does the first element of `R` satisfy `p`?  (`false` at the end of the input) -/
def headSat {α : Type} (p : α → Bool) : List α → Bool
  | c :: _ => p c
  | [] => false

theorem nextIsDigit_eq_headSat (R : List Byte) : nextIsDigit R = headSat isDigit R := by
  cases R <;> rfl

theorem nextIsEq_eq_headSat (R : List Byte) : nextIsEq R = headSat (· == 61) R := by
  cases R with
  | nil => rfl
  | cons c R =>
    by_cases h : c = 61
    · subst h
      rfl
    · simp [nextIsEq, headSat, h]

theorem span_stop {α : Type} (p : α → Bool) (a R : List α) (ha : ∀ c ∈ a, p c = true) (hR : headSat p R = false) :
    (a ++ R).takeWhile p = a ∧ (a ++ R).dropWhile p = R := by
  rw [List.takeWhile_append_of_pos ha, List.dropWhile_append_of_pos ha]
  cases R with
  | nil => simp
  | cons c R => simp [show p c = false from hR]

theorem quotedAt_closed (k : Kind) (q : Byte) (body R : List Byte)
    (hb : ∀ c ∈ body, inLiteral q c = true) :
    quotedAt k q ((body ++ [q]) ++ R) = (⟨k, q :: (body ++ [q])⟩, (q :: (body ++ [q])).length) := by
  have hq : headSat (inLiteral q) (q :: R) = false := by simp [headSat, inLiteral]
  rw [List.append_assoc, List.singleton_append]
  unfold quotedAt
  rw [(span_stop _ _ _ hb hq).1, (span_stop _ _ _ hb hq).2]
  simp [closedBy]

end Lexer
