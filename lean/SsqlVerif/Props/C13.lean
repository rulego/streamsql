/-
C13 — LIKE and IS [NOT] NULL have SQL semantics on every evaluation path.
-/
import SsqlVerif.Proofs.LikeRewrite
import SsqlVerif.Model.IsNull
import SsqlVerif.Generated.Facts
set_option autoImplicit false

namespace C13
open Like

/-- The matcher loop (all three copies share this model; each copy is tied to it by the
correspondence check) decides exactly the declarative LIKE relation — for every text and
every pattern over every alphabet, including texts that contain `%` and `_`. -/
theorem like_loop_eq_spec {α : Type} [DecidableEq α] (pct und : α) (t p : List α) :
    likeImpl pct und t p = likeSpec pct und p t :=
  likeImpl_eq_spec pct und t p

/-- the instance the driver runs: `Char`s standing for bytes (code < 256), wildcards `%`, `_` -/
theorem like_loop_eq_spec_bytes (t p : List Char) :
    likeImpl '%' '_' t p = likeSpec '%' '_' p t :=
  likeImpl_eq_spec '%' '_' t p

/-- The operator rewriting (`==`, `startsWith`, `endsWith`, `contains`, `true`, `like_match`)
chosen by `convertLikeToFunction` decides the same relation, for every pattern class
(empty, `%`, `%%…`, leading/trailing/both-side runs of `%`, inner wildcards). -/
theorem convertLike_sound {α : Type} [DecidableEq α] (pct und : α) (p t : List α) :
    evalRewritten pct und t (convertLike pct und p) = likeSpec pct und p t :=
  Like.convertLike_sound pct und p t

/-- The direct matcher and the rewritten form agree with each other. -/
theorem rewritten_eq_loop {α : Type} [DecidableEq α] (pct und : α) (p t : List α) :
    evalRewritten pct und t (convertLike pct und p) = likeImpl pct und t p := by
  rw [convertLike_sound, like_loop_eq_spec]

open IsNull in
/-- IS NULL is "absent or NULL" on all three paths, and IS NOT NULL its negation. -/
theorem isnull_paths_agree (c : Cell) :
    rewrittenIsNull c = isNullSpec c ∧ fnIsNull c = isNullSpec c ∧ handIsNull c = isNullSpec c ∧
    rewrittenIsNotNull c = !isNullSpec c ∧ fnIsNotNull c = !isNullSpec c ∧
    handIsNotNull c = !isNullSpec c := by
  cases c <;> decide

/-! concrete instances, including a text that contains `%` -/
example : likeSpec '%' '_' ['%','b','_'] ['%','a','b','c'] = true := by decide
example : likeImpl '%' '_' ['%','a','b','c'] ['%','b','_'] = true := by decide
example : likeImpl '%' '_' ['%','a'] ['%'] = true := by decide
example : likeSpec '%' '_' ['a','%'] ['b'] = false := by decide
example : convertLike '%' '_' ['a','b','%','%'] = Rewritten.startsWith ['a','b'] := by decide
example : convertLike '%' '_' ['%','%','a'] = Rewritten.endsWith ['a'] := by decide
example : convertLike '%' '_' ['%','a','_','%'] = Rewritten.likeMatch ['%','a','_','%'] := by decide

end C13

/-- tie to the source (`Facts.*` are extracted from the Go files by factsgen): the wildcard bytes
the three loops test, in source order -/
theorem C13.facts_wildcards :
    Facts.condition_matchesLikePattern_strlits = ["%", "_", "%"] ∧
    Facts.expr_matchLikePattern_strlits = ["%", "_", "%"] ∧
    Facts.functions_ExprBridge_matchesLikePattern_strlits = ["%", "_", "%"] := by decide
