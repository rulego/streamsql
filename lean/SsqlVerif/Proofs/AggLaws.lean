/-
C03: what needs a law. `LawfulOrd`: `lt` is a strict total order and `sort.Float64s` sorts by it (float64
without NaN and without mixing -0/+0). `LawfulNum`: also `+` is commutative and associative (false of
float64). `Rat` is an instance of both, so nothing here is vacuous.
-/
import SsqlVerif.Proofs.Agg
set_option autoImplicit false

namespace AggProofs
open Agg AggSpec NumOps

class LawfulOrd (ν : Type) [NumOps ν] : Prop where
  lt_irrefl : ∀ a : ν, lt a a = false
  lt_trans : ∀ a b c : ν, lt a b = true → lt b c = true → lt a c = true
  lt_connected : ∀ a b : ν, lt a b = false → lt b a = false → a = b
  -- `sort.Float64s` puts NaN first; without NaN it sorts by `<`
  sortLt_eq : ∀ a b : ν, sortLt a b = lt a b

class LawfulNum (ν : Type) [NumOps ν] : Prop extends LawfulOrd ν where
  add_comm : ∀ a b : ν, add a b = add b a
  add_assoc : ∀ a b c : ν, add (add a b) c = add a (add b c)

variable {ν : Type} [NumOps ν]

section extremum
variable (r : ν → ν → Bool) (hir : ∀ a, r a a = false)
  (htr : ∀ a b c, r a b = true → r b c = true → r a c = true)
include hir htr
omit [NumOps ν]

theorem extremum_fold_spec (x : ν) (xs : List ν) :
    xs.foldl (fun m y => if r y m then y else m) x ∈ x :: xs ∧
      ∀ y ∈ x :: xs, r y (xs.foldl (fun m y => if r y m then y else m) x) = false := by
  induction xs using List.rev_ind with
  | h0 => exact ⟨List.mem_singleton.mpr rfl, fun y hy => List.mem_singleton.mp hy ▸ hir x⟩
  | hs xs z ih =>
    rw [List.foldl_append, List.foldl_cons, List.foldl_nil, ← List.cons_append]
    obtain ⟨hm, hle⟩ := ih
    generalize xs.foldl _ x = m at hm hle ⊢
    by_cases hz : r z m = true
    · rw [if_pos hz]
      refine ⟨List.mem_append_right _ (List.mem_singleton.mpr rfl), fun y hy => ?_⟩
      rcases List.mem_append.mp hy with hy | hy
      · exact Bool.eq_false_iff.mpr fun hyz =>
          Bool.false_ne_true ((hle y hy).symm.trans (htr y z m hyz hz))
      · rw [List.mem_singleton.mp hy]
        exact hir z
    · rw [if_neg hz]
      refine ⟨List.mem_append_left _ hm, fun y hy => ?_⟩
      rcases List.mem_append.mp hy with hy | hy
      · exact hle y hy
      · rw [List.mem_singleton.mp hy]
        exact Bool.eq_false_iff.mpr hz

theorem extremum_spec (l : List ν) (m : ν) (h : extremum r l = some m) :
    m ∈ l ∧ ∀ y ∈ l, r y m = false := by
  cases l with
  | nil => cases h
  | cons x xs =>
    cases h
    exact extremum_fold_spec r hir htr x xs

theorem extremum_perm (hco : ∀ a b, r a b = false → r b a = false → a = b) {l l' : List ν}
    (h : l.Perm l') : extremum r l = extremum r l' := by
  cases l with
  | nil => rw [h.nil_eq]
  | cons x xs =>
    cases l' with
    | nil => exact absurd h.eq_nil (List.cons_ne_nil _ _)
    | cons x' xs' =>
      obtain ⟨a1, a2⟩ := extremum_fold_spec r hir htr x xs
      obtain ⟨b1, b2⟩ := extremum_fold_spec r hir htr x' xs'
      exact congrArg some (hco _ _ (b2 _ (h.subset a1)) (a2 _ (h.symm.subset b1)))

end extremum

section ord
variable [LawfulOrd ν]

/-- `le a b := ¬ b < a` as used by the specification's merge sort -/
def leB (a b : ν) : Bool := !sortLt b a

theorem LawfulOrd.lt_asymm {a b : ν} (h : lt a b = true) : lt b a = false :=
  Bool.eq_false_iff.mpr fun h' =>
    Bool.false_ne_true ((LawfulOrd.lt_irrefl a).symm.trans (LawfulOrd.lt_trans a b a h h'))

theorem leB_total (a b : ν) : (leB a b || leB b a) = true := by
  unfold leB
  rw [LawfulOrd.sortLt_eq, LawfulOrd.sortLt_eq]
  cases h : lt b a with
  | false => rfl
  | true =>
    rw [LawfulOrd.lt_asymm h]
    rfl

theorem leB_trans (a b c : ν) : leB a b = true → leB b c = true → leB a c = true := by
  unfold leB
  rw [LawfulOrd.sortLt_eq, LawfulOrd.sortLt_eq, LawfulOrd.sortLt_eq]
  simp only [Bool.not_eq_true']
  intro h1 h2
  -- if c < a then, comparing b with c: c < b is excluded, b < c gives b < a, and b = c gives c < a again
  refine Bool.eq_false_iff.mpr fun h3 => ?_
  cases h4 : lt b c with
  | true => exact Bool.false_ne_true (h1.symm.trans (LawfulOrd.lt_trans _ _ _ h4 h3))
  | false =>
    rw [LawfulOrd.lt_connected c b h2 h4] at h3
    exact Bool.false_ne_true (h1.symm.trans h3)

theorem leB_antisymm (a b : ν) : leB a b = true → leB b a = true → a = b := by
  unfold leB
  rw [LawfulOrd.sortLt_eq, LawfulOrd.sortLt_eq]
  simp only [Bool.not_eq_true']
  exact fun h1 h2 => LawfulOrd.lt_connected a b h2 h1

theorem insertSorted_pairwise (x : ν) (l : List ν) (h : l.Pairwise (fun a b => leB a b = true)) :
    (insertSorted x l).Pairwise (fun a b => leB a b = true) := by
  fun_induction insertSorted x l with
  | case1 => exact List.pairwise_singleton _ _
  | case2 y ys hxy =>  -- x first
    have hxy' : leB x y = true := by
      rw [LawfulOrd.sortLt_eq] at hxy
      rw [leB, LawfulOrd.sortLt_eq, LawfulOrd.lt_asymm hxy]
      rfl
    refine List.pairwise_cons.mpr ⟨fun z hz => ?_, h⟩
    rcases List.mem_cons.mp hz with rfl | hz
    · exact hxy'
    · exact leB_trans _ _ _ hxy' ((List.pairwise_cons.mp h).1 z hz)
  | case3 y ys hxy ih =>  -- x after y
    obtain ⟨hy, hys⟩ := List.pairwise_cons.mp h
    refine List.pairwise_cons.mpr ⟨fun z hz => ?_, ih hys⟩
    rcases List.mem_cons.mp ((insertSorted_perm x ys).subset hz) with rfl | hz
    · rw [leB, Bool.eq_false_iff.mpr hxy]
      rfl
    · exact hy z hz

theorem isort_pairwise (l : List ν) : (isort l).Pairwise (fun a b => leB a b = true) := by
  induction l with
  | nil => exact List.Pairwise.nil
  | cons x xs ih => exact insertSorted_pairwise x _ ih

theorem sorted_pairwise (l : List ν) : (sorted l).Pairwise (fun a b => leB a b = true) :=
  List.pairwise_mergeSort (le := fun a b => !sortLt b a) leB_trans leB_total l

theorem isort_eq_sorted (l : List ν) : isort l = sorted l :=
  ((isort_perm l).trans (List.mergeSort_perm l _).symm).eq_of_pairwise
    (fun a b _ _ => leB_antisymm a b) (isort_pairwise l) (sorted_pairwise l)

theorem medianResult_eq (l : List ν) : medianResult l = medianOf l := by
  unfold medianResult medianOf middle
  rw [isort_length, isort_eq_sorted]
  rcases Nat.mod_two_eq_zero_or_one l.length with h | h
  · rw [h]
    rfl
  · rw [h]
    rfl

theorem percentileResult_eq (p : ν) (l : List ν) : percentileResult p l = percentileOf p l := by
  unfold percentileResult percentileOf
  rw [isort_eq_sorted, pctIndex_eq]
  rfl

theorem least_spec (l : List ν) (m : ν) (h : least l = some m) :
    m ∈ l ∧ ∀ y ∈ l, lt y m = false :=
  extremum_spec lt LawfulOrd.lt_irrefl LawfulOrd.lt_trans l m (least_eq l ▸ h)

theorem greatest_spec (l : List ν) (m : ν) (h : greatest l = some m) :
    m ∈ l ∧ ∀ y ∈ l, lt m y = false :=
  extremum_spec (fun a b => lt b a) LawfulOrd.lt_irrefl (fun a b c h1 h2 => LawfulOrd.lt_trans c b a h2 h1)
    l m (greatest_eq l ▸ h)

section
-- these statements carry the instance `[LawfulOrd ν]` without using it
set_option linter.unusedSectionVars false
theorem least_isSome (l : List ν) : (least l).isSome = !l.isEmpty := by
  cases l <;> rfl
theorem greatest_isSome (l : List ν) : (greatest l).isSome = !l.isEmpty := by
  cases l <;> rfl
end

end ord

section
variable [LawfulOrd ν] {l l' : List ν} (h : l.Perm l')
include h

theorem sorted_perm_eq : sorted l = sorted l' :=
  (((List.mergeSort_perm l _).trans h).trans (List.mergeSort_perm l' _).symm).eq_of_pairwise
    (fun a b _ _ => leB_antisymm a b) (sorted_pairwise l) (sorted_pairwise l')

theorem least_perm : least l = least l' := by
  rw [least_eq, least_eq]
  exact extremum_perm lt LawfulOrd.lt_irrefl LawfulOrd.lt_trans LawfulOrd.lt_connected h

theorem greatest_perm : greatest l = greatest l' := by
  rw [greatest_eq, greatest_eq]
  exact extremum_perm (fun a b => lt b a) LawfulOrd.lt_irrefl
    (fun a b c h1 h2 => LawfulOrd.lt_trans c b a h2 h1) (fun a b h1 h2 => LawfulOrd.lt_connected a b h2 h1) h

theorem medianOf_perm : medianOf l = medianOf l' := by
  unfold medianOf
  rw [sorted_perm_eq h, h.length_eq]

theorem percentileOf_perm (p : ν) : percentileOf p l = percentileOf p l' := by
  unfold percentileOf
  rw [sorted_perm_eq h, h.length_eq]

end

section
variable [LawfulNum ν] {l l' : List ν} (h : l.Perm l')
include h

theorem total_perm : total l = total l' := by
  unfold total
  refine h.foldl_eq' (fun x _ y _ z => ?_) _
  rw [LawfulNum.add_assoc, LawfulNum.add_comm x y, ← LawfulNum.add_assoc]

theorem average_perm : average l = average l' := by
  unfold average
  rw [total_perm h, h.length_eq]

theorem sqDevTotal_perm : sqDevTotal l = sqDevTotal l' := by
  unfold sqDevTotal
  rw [average_perm h]
  exact total_perm (h.map _)

theorem sampleStdDev_perm : sampleStdDev l = sampleStdDev l' := by
  unfold sampleStdDev
  rw [sqDevTotal_perm h, h.length_eq]

theorem sampleVariance_perm : sampleVariance l = sampleVariance l' := by
  unfold sampleVariance
  rw [sqDevTotal_perm h, h.length_eq]

theorem populationVariance_perm : populationVariance l = populationVariance l' := by
  unfold populationVariance
  rw [sqDevTotal_perm h, h.length_eq]

end

omit [NumOps ν] in
theorem numOrNull_perm {f : List ν → ν} (hf : ∀ {l l' : List ν}, l.Perm l' → f l = f l') {l l' : List ν}
    (h : l.Perm l') : numOrNull l f = numOrNull l' f := by
  cases l with
  | nil => rw [h.nil_eq]
  | cons a l =>
    cases l' with
    | nil => exact absurd h.eq_nil (List.cons_ne_nil _ _)
    | cons b l' => exact congrArg Val.flt (hf h)

omit [NumOps ν] in
theorem countNonNull_perm {l l' : List (Val ν)} (h : l.Perm l') : countNonNull l = countNonNull l' := by
  unfold countNonNull
  exact (h.filter _).length_eq

instance : NumOps Rat where
  add := (· + ·)
  sub := (· - ·)
  mul := (· * ·)
  div := (· / ·)
  ofNat n := (n : Rat)
  ofInt i := (i : Rat)
  lt a b := decide (a < b)
  sortLt a b := decide (a < b)
  sqrt x := x              -- a placeholder: no theorem depends on what `sqrt` is
  floorNat x := x.floor.toNat

instance : LawfulNum Rat where
  lt_irrefl a := by simp [NumOps.lt, Rat.lt_irrefl]
  lt_trans a b c h1 h2 := by
    simp only [NumOps.lt, decide_eq_true_eq] at *
    rw [Rat.lt_iff_le_and_not_ge]
    refine ⟨Rat.le_trans (Rat.le_of_lt h1) (Rat.le_of_lt h2), fun hca => ?_⟩
    exact (Rat.lt_iff_le_and_not_ge.mp h2).2 (Rat.le_trans hca (Rat.le_of_lt h1))
  lt_connected a b h1 h2 := by
    simp only [NumOps.lt, decide_eq_false_iff_not, Rat.not_lt] at *
    exact Rat.le_antisymm h2 h1
  sortLt_eq _ _ := rfl
  add_comm := Rat.add_comm
  add_assoc := Rat.add_assoc

end AggProofs
