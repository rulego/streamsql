/-
The state invariant `Good` of the tumbling state machine, and `Passed`: the intervals the trigger loop has gone
past stay behind it.
-/
import SsqlVerif.Proofs.Tumbling
set_option autoImplicit false

namespace Tumbling
open Wm

structure Good (s : TW) : Prop where
  hsize : 0 < s.size
  hinit : s.cur = none → s.data = [] ∧ s.doneW = none
  hdata : ∀ c, s.cur = some c → ∀ r ∈ s.data, c ≤ r.ts
  halign : ∀ c, s.cur = some c → s.size ∣ c
  htrig : ∀ w, s.trigW = some w → leOpt w s.wm.cur
  hdone : ∀ w, s.doneW = some w → leOpt w s.wm.cur
  hchan : ∀ w ∈ s.wm.chan, leOpt w s.wm.cur
  /-- a pass for `w` ends only when the current slot's end is beyond `w`, and a later re-seat (by an on-time row,
  hence one at or above `w`) keeps it so -/
  hdoneCur : ∀ w c, s.doneW = some w → s.cur = some c → w < c + s.size

theorem good_init (size ooo lateness : Int) (hs : 0 < size) : Good (init size ooo lateness) :=
  { hsize := hs
    hinit := fun _ => ⟨rfl, rfl⟩
    hdata := by
      intro c h
      cases h
    halign := by
      intro c h
      cases h
    htrig := by
      intro w h
      cases h
    hdone := by
      intro w h
      cases h
    hchan := by
      intro w h
      cases h
    hdoneCur := by
      intro w c h
      cases h }

theorem curInit_le (s : TW) (r : Row) (hg : Good s) (ht : 0 ≤ r.ts) (hc : s.cur = none) :
    curInit s r ≤ r.ts := by
  simp only [curInit, hc]
  exact alignDown_le _ _ ht hg.hsize

theorem curInit_dvd (s : TW) (r : Row) (hg : Good s) : s.size ∣ curInit s r := by
  unfold curInit
  cases hc : s.cur with
  | none => exact alignDown_dvd _ _
  | some c => exact hg.halign c hc

theorem curAfterAdd_cases (s : TW) (r : Row) (now : Int) :
    curAfterAdd s r now = curInit s r ∨
    (lateNow s r now = false ∧ r.ts < curInit s r ∧ curAfterAdd s r now = alignDown r.ts s.size) := by
  fun_cases curAfterAdd s r now
  case case1 => exact Or.inl rfl  -- late
  case case2 hl hlt => exact Or.inr ⟨Bool.eq_false_iff.mpr hl, hlt, rfl⟩  -- re-seat
  case case3 => exact Or.inl rfl  -- on time

theorem late_no_reseat (s : TW) (r : Row) (now : Int) (hl : lateNow s r now = true) :
    curAfterAdd s r now = curInit s r := by
  unfold curAfterAdd
  rw [if_pos hl]

theorem curAfterAdd_dvd (s : TW) (r : Row) (now : Int) (hg : Good s) : s.size ∣ curAfterAdd s r now := by
  rcases curAfterAdd_cases s r now with h | ⟨_, _, h⟩ <;> rw [h]
  · exact curInit_dvd s r hg
  · exact alignDown_dvd _ _

theorem curAfterAdd_le_curInit (s : TW) (r : Row) (now : Int) (hg : Good s) (ht : 0 ≤ r.ts) :
    curAfterAdd s r now ≤ curInit s r := by
  rcases curAfterAdd_cases s r now with h | ⟨_, hlt, h⟩ <;> rw [h]
  · exact Int.le_refl _
  · exact Int.le_of_lt (Int.lt_of_le_of_lt (alignDown_le r.ts s.size ht hg.hsize) hlt)

theorem kept_ge_cur (s : TW) (r : Row) (now : Int) (hg : Good s) (ht : 0 ≤ r.ts)
    (hk : fate s r now = .keep) : curAfterAdd s r now ≤ r.ts := by
  fun_cases curAfterAdd s r now
  case case1 hl =>  -- late: accepted only inside the current slot
    rcases fate_cases s r now with ⟨_, hl' | hin⟩ | ⟨h', _⟩ | ⟨f, h', _⟩
    · rw [hl] at hl'
      cases hl'
    · exact ((inSlot_iff _ _ _).mp hin).1
    · rw [h'] at hk
      cases hk
    · rw [h'] at hk
      cases hk
  case case2 => exact alignDown_le r.ts s.size ht hg.hsize  -- re-seat
  case case3 _ hge => exact Int.not_lt.mp hge  -- on time

theorem stepAdd_data_mem (s : TW) (r : Row) (now : Int) (x : Row) (hx : x ∈ (stepAdd s r now).1.data) :
    x ∈ s.data ∨ (x = r ∧ fate s r now = .keep) := by
  rcases stepAdd_cases s r now with ⟨_, _, _, hd⟩ | ⟨f, hf, _, _, hd, _⟩ <;> rw [hd] at hx
  · exact (List.mem_append.mp hx).imp_right (mem_acceptedBy s r now x)
  · obtain ⟨_, hin, _⟩ := findFired_mem s r now f (fate_lateUpdate s r now f hf).2.2
    obtain ⟨hm, hout⟩ := List.mem_filter.mp hx
    rcases List.mem_append.mp hm with h | h
    · exact Or.inl h
    · rw [List.mem_singleton.mp h, hin] at hout
      cases hout

theorem good_add (s : TW) (r : Row) (now : Int) (hg : Good s) (ht : 0 ≤ r.ts) : Good (stepAdd s r now).1 := by
  have hmono : ∀ x, leOpt x s.wm.cur → leOpt x (wmAfter s r now).cur :=
    fun x hx => (Wm.Move.update _ _ _).mono hx
  refine
    { hsize := hg.hsize
      hinit := by
        intro h
        cases h
      hdata := ?_
      halign := by
        intro c hc
        cases hc
        exact curAfterAdd_dvd s r now hg
      htrig := fun w hw => hmono w (hg.htrig w hw)
      hdone := fun w hw => hmono w (hg.hdone w hw)
      hchan := fun w hw => (Wm.Move.update _ _ _).chan hg.hchan _ hw
      hdoneCur := ?_ }
  · intro c hc x hx
    cases hc
    rcases stepAdd_data_mem s r now x hx with h | ⟨rfl, hk⟩
    · -- an old row: it was at or above the old slot, and the slot only moves down here
      cases hcur : s.cur with
      | none =>
        rw [(hg.hinit hcur).1] at h
        cases h
      | some c0 =>
        have h1 := hg.hdata c0 hcur x h
        have h2 := curAfterAdd_le_curInit s r now hg ht
        simp only [curInit, hcur] at h2
        exact Int.le_trans h2 h1
    · exact kept_ge_cur s x now hg ht hk
  · intro w c hw hc
    cases hc
    have hw' : s.doneW = some w := hw
    show w < curAfterAdd s r now + s.size
    cases hcur : s.cur with
    | none =>
      rw [(hg.hinit hcur).2] at hw'
      cases hw'
    | some c0 =>
      have h0 := hg.hdoneCur w c0 hw' hcur
      have hci : curInit s r = c0 := by simp only [curInit, hcur]
      rcases curAfterAdd_cases s r now with h | ⟨hl, _, h⟩ <;> rw [h]
      · rw [hci]
        exact h0
      · -- re-seated: the completed pass is at or below the watermark, the row is not late
        have hle := not_late_ge (wmAfter s r now) r.ts w hl (hmono w (hg.hdone w hw'))
        exact Int.lt_of_le_of_lt hle (lt_alignDown_add r.ts s.size ht hg.hsize)

theorem good_fireOrSkip (s : TW) (c : Int) (hg : Good s) (hcur : s.cur = some c) : Good (fireOrSkip s c).1 := by
  obtain ⟨h1, h2, h3, h4, _, h6, h7⟩ := fireOrSkip_frame s c
  exact
    { hsize := by
        rw [h4]
        exact hg.hsize
      hinit := by
        intro h
        rw [h1] at h
        cases h
      hdata := by
        intro c' hc' x hx
        rw [h1] at hc'
        cases hc'
        rw [h2] at hx
        obtain ⟨hx1, hx2⟩ := List.mem_filter.mp hx
        exact inSlot_false_ge _ _ _ (hg.hdata c hcur x hx1) (by simpa using hx2)
      halign := by
        intro c' hc'
        rw [h1] at hc'
        cases hc'
        rw [h4]
        exact Int.dvd_add (hg.halign c hcur) (Int.dvd_refl _)
      htrig := by
        rw [h3, h6]
        exact hg.htrig
      hdone := by
        rw [h3, h7]
        exact hg.hdone
      hchan := by
        rw [h3]
        exact hg.hchan
      hdoneCur := by
        intro w' c' hd hc'
        rw [h7] at hd
        rw [h1] at hc'
        cases hc'
        rw [h4]
        exact Int.lt_trans (hg.hdoneCur w' c hd hcur) (Int.lt_add_of_pos_right _ hg.hsize) }

theorem good_closeExpired (s : TW) (w c : Int) (hg : Good s) (hcur : s.cur = some c)
    (htr : s.trigW = some w) (hw : ¬ c + s.size ≤ w) : Good (closeExpired s w) :=
  { hg with
    hinit := fun h => by
      rw [show (closeExpired s w).cur = s.cur from rfl, hcur] at h
      cases h
    hdata := fun c' hc' x hx => hg.hdata c' hc' x (List.mem_filter.mp hx).1
    htrig := fun _ h => nomatch h
    hdone := fun w' h => by
      cases h
      exact hg.htrig w htr
    hdoneCur := fun w' c' h1 h2 => by
      cases h1
      rw [show (closeExpired s w).cur = s.cur from rfl, hcur] at h2
      cases h2
      exact Int.not_le.mp hw }

theorem good_iter (s : TW) (hg : Good s) : Good (stepIter s).1 := by
  rcases stepIter_cases s with ⟨w, c, _, hcur, _, h⟩ | ⟨w, c, htr, hcur, hw, h⟩ | h | h <;> rw [h]
  · exact good_fireOrSkip s c hg hcur
  · exact good_closeExpired s w c hg hcur htr hw
  · exact { hg with htrig := fun _ h => nomatch h }
  · exact hg

theorem good_pop (s : TW) (hg : Good s) : Good (stepPop s) := by
  rcases stepPop_cases s with h | ⟨w, wm', hp, h⟩ <;> rw [h]
  · exact hg
  · have hb : Below (some w) wm' := Below.pop ⟨hg.htrig, hg.hchan⟩ hp
    exact
      { hg with
        htrig := hb.1
        hdone := fun w' h => (Move.pop hp).mono (hg.hdone w' h)
        hchan := hb.2 }

/-- timestamps of all adds are post-epoch (truncating alignment is floor only there) -/
def OpOk : Op → Prop
  | .add r _ => 0 ≤ r.ts
  | _ => True

instance (op : Op) : Decidable (OpOk op) := by
  cases op <;> simp only [OpOk] <;> infer_instance

theorem good_step (s : TW) (op : Op) (hg : Good s) (hok : OpOk op) : Good (step s op).1 := by
  cases op with
  | add r now => exact good_add s r now hg hok
  | addNoTs => exact hg
  | tick idle now =>
    exact
      { hg with
        htrig := fun w h => (Move.tick _ _ _).mono (hg.htrig w h)
        hdone := fun w h => (Move.tick _ _ _).mono (hg.hdone w h)
        hchan := (Move.tick _ _ _).chan hg.hchan }
  | pop => exact good_pop s hg
  | iter => exact good_iter s hg

/-- the current slot is at or beyond `x`, and the watermark has reached the slot's start -/
def Passed (s : TW) (x : Int) : Prop := ∃ c, s.cur = some c ∧ x ≤ c ∧ leOpt c s.wm.cur

theorem Passed.le_cur {s : TW} {x c : Int} (h : Passed s x) (hc : s.cur = some c) : x ≤ c := by
  obtain ⟨c', hc', hx, _⟩ := h
  rw [hc] at hc'
  cases hc'
  exact hx

/-- a slot the watermark has reached is never re-seated, and the loop only moves it forward -/
theorem passed_step (s : TW) (op : Op) (x : Int) (hg : Good s) (h : Passed s x) : Passed (step s op).1 x := by
  obtain ⟨c, hc, hx, hle⟩ := h
  have hle' := (step_move s op).mono hle
  cases op with
  | add r now =>
    refine ⟨c, ?_, hx, hle'⟩
    show some (curAfterAdd s r now) = some c
    have hci : curInit s r = c := by simp only [curInit, hc]
    rcases curAfterAdd_cases s r now with h | ⟨hl, hlt, _⟩
    · rw [h, hci]
    · rw [hci] at hlt
      exact absurd hlt (Int.not_lt.mpr (not_late_ge _ _ _ hl hle'))
  | addNoTs => exact ⟨c, hc, hx, hle'⟩
  | tick idle now => exact ⟨c, hc, hx, hle'⟩
  | pop =>
    exact ⟨c, (stepPop_frame s).2.2.1.trans hc, hx, hle'⟩
  | iter =>
    change leOpt c (stepIter s).1.wm.cur at hle'
    show Passed (stepIter s).1 x
    rcases stepIter_cases s with ⟨w, c', htr, hc', hw, h⟩ | ⟨_, _, _, _, _, h⟩ | h | h <;> rw [h] at hle' ⊢
    · rw [hc] at hc'
      cases hc'
      obtain ⟨y, hy, hwy⟩ := hg.htrig w htr
      have hwm : leOpt (c + s.size) (fireOrSkip s c).1.wm.cur := by
        rw [(fireOrSkip_frame s c).2.2.1]
        exact ⟨y, hy, Int.le_trans hw hwy⟩
      exact ⟨c + s.size, (fireOrSkip_frame s c).1, Int.le_trans hx (Int.le_add_of_nonneg_right (Int.le_of_lt hg.hsize)),
        hwm⟩
    · exact ⟨c, hc, hx, hle'⟩
    · exact ⟨c, hc, hx, hle'⟩
    · exact ⟨c, hc, hx, hle'⟩

end Tumbling
