/-
The lexer against its specification (`Spec/Lexer.lean`): a source token, in any spelling, after whitespace
and before anything that does not continue it, is read back as itself; `needSep` covers every first byte
that would continue the token before, so a layout satisfying `Sep` lexes to `expected`.
-/
import SsqlVerif.Proofs.Lexer
import SsqlVerif.Spec.Lexer
set_option autoImplicit false

namespace LexSpec
open Lexer

theorem flipCase_cases (b : Byte) :
    flipCase b = b ∨ (isLower b = true ∧ isUpper (flipCase b) = true ∧ flipCase b = b - 32) ∨
      (isUpper b = true ∧ isLower (flipCase b) = true ∧ flipCase b = b + 32) := by
  fun_cases flipCase b
  case case1 hl =>  -- lower case
    have hr := isLower_range.1 hl
    exact .inr (.inl ⟨hl, isUpper_range.2 ⟨Nat.le_sub_of_add_le hr.1, Nat.sub_le_of_le_add hr.2⟩, rfl⟩)
  case case2 _ hu =>  -- upper case
    have hr := isUpper_range.1 hu
    exact .inr (.inr ⟨hu, isLower_range.2 ⟨Nat.add_le_add_right hr.1 32, Nat.add_le_add_right hr.2 32⟩, rfl⟩)
  case case3 => exact .inl rfl

theorem flipCase_of_letter (p : Byte → Bool) (hp : ∀ c, isLetter c = true → p c = true) (b : Byte) :
    p (flipCase b) = p b := by
  rcases flipCase_cases b with h | ⟨hl, hu, _⟩ | ⟨hu, hl, _⟩
  · rw [h]
  · rw [hp _ (isLetter_of_upper hu), hp _ (isLetter_of_lower hl)]
  · rw [hp _ (isLetter_of_lower hl), hp _ (isLetter_of_upper hu)]

theorem upper_flipCase (b : Byte) : upper (flipCase b) = upper b := by
  unfold upper
  rcases flipCase_cases b with h | ⟨hl, hu, h⟩ | ⟨hu, hl, h⟩
  · rw [h]
  · rw [if_neg (by simp [not_lower_of_upper hu]), if_pos hl, h]
  · rw [if_pos hl, if_neg (by simp [not_lower_of_upper hu]), h, Nat.add_sub_cancel]

@[simp] theorem applyMask_nil (m : List Bool) : applyMask m [] = [] := by
  cases m with
  | nil => rfl
  | cons x m => cases x <;> rfl

theorem applyMask_map {α : Type} (f : Byte → α) (hf : ∀ b, f (flipCase b) = f b) (m : List Bool) (w : List Byte) :
    (applyMask m w).map f = w.map f := by
  induction w generalizing m with
  | nil => rw [applyMask_nil]
  | cons b w ih =>
    cases m with
    | nil => rfl
    | cons x m => cases x <;> simp [applyMask, ih, hf]

theorem applyMask_all (p : Byte → Bool) (hp : ∀ b, p (flipCase b) = p b) (m : List Bool) (w : List Byte) :
    (applyMask m w).all p = w.all p := by
  simpa using congrArg (List.all · id) (applyMask_map p hp m w)

theorem wordKind_applyMask (m : List Bool) (w : List Byte) : wordKind (applyMask m w) = wordKind w := by
  simp only [wordKind, wordKindIn, applyMask_map upper upper_flipCase]

theorem valid_applyMask (m : List Bool) (w : List Byte) :
    (Src.word (applyMask m w)).valid = (Src.word w).valid := by
  cases w with
  | nil => rw [applyMask_nil]
  | cons b tl =>
    cases m with
    | nil => rfl
    | cons x m => cases x <;> simp [applyMask, Src.valid, flipCase_of_letter isLetter fun _ h => h,
      applyMask_all _ (flipCase_of_letter isIdentChar fun _ h => isIdentChar_iff.2 (.inl h))]

theorem applyMask_allFalse (m : List Bool) (w : List Byte) (h : m.all (· == false) = true) : applyMask m w = w := by
  induction w generalizing m with
  | nil => exact applyMask_nil m
  | cons b w ih =>
    cases m with
    | nil => rfl
    | cons x m =>
      simp only [List.all_cons, Bool.and_eq_true, beq_iff_eq] at h
      rw [h.1, applyMask, ih m h.2]

/-- byte `c`, directly after token `a`, would be read as part of it: the lexer's side of `needSep` -/
def cont : Src → Byte → Bool
  | .word _ => isIdentChar
  | .num _ _ => isNumChar
  | .op .minus => isDigit
  | .op .eq1 | .op .gt | .op .lt => (· == 61)
  | _ => fun _ => false

/-- `R`, following token `a`, does not continue it -/
def okNext (a : Src) (R : List Byte) : Bool := !headSat (cont a) R

theorem headSat_cont_of_okNext {a : Src} {R : List Byte} (h : okNext a R = true) : headSat (cont a) R = false := by
  simpa [okNext] using h

theorem okNext_of_not_cont {a : Src} {c : Byte} (R : List Byte) (h : ¬cont a c = true) : okNext a (c :: R) = true := by
  rw [okNext, headSat, Bool.eq_false_iff.2 h]
  rfl

theorem okNext_of_cont_false {a : Src} (h : ∀ c, cont a c = false) (R : List Byte) : okNext a R = true := by
  cases R with
  | nil => rfl
  | cons c R => exact okNext_of_not_cont R (Bool.eq_false_iff.1 (h c))

theorem identChar_or_eq_of_cont {a : Src} {c : Byte} (h : cont a c = true) : isIdentChar c = true ∨ c = 61 := by
  unfold cont at h
  split at h
  · exact .inl h  -- word
  · exact .inl (isIdentChar_iff.2 (.inr h))  -- num
  · exact .inl (isIdentChar_iff.2 (.inr (isNumChar_iff.2 (.inl h))))  -- minus
  · exact .inr (beq_iff_eq.1 h)  -- eq1
  · exact .inr (beq_iff_eq.1 h)  -- gt
  · exact .inr (beq_iff_eq.1 h)  -- lt
  · cases h  -- the rest

/-- inert: neither an identifier character nor `=` -/
theorem okNext_of_inert (a : Src) (c : Byte) (R : List Byte) (h1 : isIdentChar c = false) (h2 : c ≠ 61) :
    okNext a (c :: R) = true := by
  refine okNext_of_not_cont R fun hc => ?_
  rcases identChar_or_eq_of_cont hc with h | h
  · rw [h1] at h
    cases h
  · exact absurd h h2

theorem okNext_ws (a : Src) (c : Byte) (R : List Byte) (h : isWs c = true) : okNext a (c :: R) = true := by
  rcases isWs_cases h with h | h | h | h
  all_goals
    subst h
    exact okNext_of_inert a _ R rfl (by decide)

theorem okNext_allWs (a : Src) (R : List Byte) (h : ∀ c ∈ R, isWs c = true) : okNext a R = true := by
  cases R with
  | nil => rfl
  | cons c R => exact okNext_ws a c R (h c (by simp))

theorem tokenAt_word (w : List Byte) (m : List Bool) (R : List Byte) (hv : (Src.word w).valid = true)
    (hR : headSat isIdentChar R = false) :
    tokenAt ((Src.word w).text m ++ R) = (⟨wordKind w, (Src.word w).text m⟩, ((Src.word w).text m).length) := by
  -- the masked word is again a well-formed word of the same kind: read it as written
  rw [← valid_applyMask m w] at hv
  rw [← wordKind_applyMask m w]
  show tokenAt (applyMask m w ++ R) = (⟨wordKind (applyMask m w), applyMask m w⟩, (applyMask m w).length)
  generalize applyMask m w = x at hv ⊢
  cases x with
  | nil => cases hv
  | cons b tl =>
    simp only [Src.valid, Bool.and_eq_true, List.all_eq_true] at hv
    have hall : ∀ c ∈ b :: tl, isIdentChar c = true :=
      List.forall_mem_cons.2 ⟨isIdentChar_iff.2 (.inl hv.1), hv.2⟩
    simp only [List.cons_append, tokenAt, startOf_of_letter hv.1, wordAt]
    rw [← List.cons_append, (span_stop _ _ _ hall hR).1]

theorem tokenAt_num (neg : Bool) (d : List Byte) (m : List Bool) (R : List Byte) (hv : (Src.num neg d).valid = true)
    (hR : headSat isNumChar R = false) :
    tokenAt ((Src.num neg d).text m ++ R) = (⟨.number, (Src.num neg d).text m⟩, ((Src.num neg d).text m).length) := by
  cases d with
  | nil => cases hv
  | cons c tl =>
    simp only [Src.valid, Bool.and_eq_true, List.all_eq_true] at hv
    have hall : ∀ x ∈ c :: tl, isNumChar x = true :=
      List.forall_mem_cons.2 ⟨isNumChar_iff.2 (.inl hv.1), hv.2⟩
    have htw := (span_stop _ _ R hall hR).1
    cases neg with
    | false =>
      simp only [Src.text, Bool.false_eq_true, if_false, List.cons_append, tokenAt, startOf_of_digit hv.1, numberAt]
      rw [← List.cons_append, htw]
    | true =>
      simp only [Src.text, if_true, List.cons_append, tokenAt, (by decide : startOf 45 = .minus), minusAt,
        nextIsDigit, hv.1]
      rw [← List.cons_append, htw]
      rfl

/-- `-`, `=`, `>`, `<` look at the next byte; the other operators are a closed table. -/
theorem tokenAt_op (o : Op) (R : List Byte) (hn : okNext (.op o) R = true) :
    tokenAt (o.text ++ R) = (⟨o.kind, o.text⟩, o.text.length) := by
  have cmp (b : Byte) (k1 k2 : Kind) (h : headSat (· == 61) R = false) : cmpAt b k1 k2 R = (⟨k1, [b]⟩, 1) := by
    simp [cmpAt, nextIsEq_eq_headSat, h]
  cases o
  case minus =>
    show minusAt R = (⟨.minus, [45]⟩, 1)
    rw [minusAt, nextIsDigit_eq_headSat, show headSat isDigit R = false from headSat_cont_of_okNext hn]
    rfl
  case eq1 => exact cmp 61 .eq .eq (headSat_cont_of_okNext hn)
  case gt => exact cmp 62 .gt .ge (headSat_cont_of_okNext hn)
  case lt => exact cmp 60 .lt .le (headSat_cont_of_okNext hn)
  all_goals rfl

theorem Src.kind_ne_eof (a : Src) : a.kind ≠ .eof := by
  intro h
  cases a with
  | word w => exact wordKind_ne_eof w h
  | op o => cases o <;> cases h
  | _ => cases h

theorem tokenAt_src (a : Src) (m : List Bool) (R : List Byte) (hv : a.valid = true) (hn : okNext a R = true) :
    tokenAt (a.text m ++ R) = (⟨a.kind, a.text m⟩, (a.text m).length) := by
  cases a with
  | word w => exact tokenAt_word w m R hv (headSat_cont_of_okNext hn)
  | num neg d => exact tokenAt_num neg d m R hv (headSat_cont_of_okNext hn)
  | str q body =>
    simp only [Src.valid, Bool.and_eq_true, Bool.or_eq_true, beq_iff_eq] at hv
    have hs : startOf q = .quote := by rcases hv.1 with rfl | rfl <;> rfl
    simp only [Src.text, Src.kind, List.cons_append, tokenAt, hs]
    exact quotedAt_closed .string q body R (List.all_eq_true.1 hv.2)
  | qid body =>
    simp only [Src.text, Src.kind, List.cons_append, tokenAt, (by decide : startOf 96 = .backtick)]
    exact quotedAt_closed .qident 96 body R (List.all_eq_true.1 hv)
  | op o => exact tokenAt_op o R hn

theorem lexAll_src (a : Src) (m : List Bool) (pre R : List Byte) (hv : a.valid = true) (hn : okNext a R = true)
    (hp : ∀ c ∈ pre, isWs c = true) :
    lexAll (pre ++ (a.text m ++ R)) = ⟨a.kind, a.text m⟩ :: lexAll R := by
  have ht := tokenAt_src a m R hv hn
  have := lexAll_step pre (a.text m ++ R) hp (by
    rw [ht]
    exact a.kind_ne_eof)
  rwa [ht, List.drop_left] at this

/- The first byte of a well-formed token is a letter (word), a digit (unsigned number), one of `-`, `'`,
`"`, `` ` `` — which continue nothing — or the first byte of an operator, of which only `.` and `=`
continue anything. -/

theorem needSep_word_of_cont {a : Src} {c : Byte} {w : List Byte} (hl : isLetter c = true) (hc : cont a c = true) :
    needSep a (.word w) = true := by
  have h61 : (c == 61) = false := by
    rw [beq_eq_false_iff_ne]
    rintro rfl
    cases hl
  unfold cont at hc
  split at hc
  · rfl  -- word
  · rcases isNumChar_iff.1 hc with hd | rfl  -- num
    · rw [not_letter_of_digit hd] at hl
      cases hl
    · cases hl
  · rw [not_letter_of_digit hc] at hl  -- minus
    cases hl
  all_goals simp [h61] at hc  -- eq1, gt, lt, the rest

theorem needSep_num_of_cont {a : Src} {c : Byte} {d : List Byte} (hd : isDigit c = true) (hc : cont a c = true) :
    needSep a (.num false d) = true := by
  have h61 : (c == 61) = false := by
    rw [beq_eq_false_iff_ne]
    rintro rfl
    cases hd
  unfold cont at hc
  split at hc
  · rfl  -- word
  · rfl  -- num
  · rfl  -- minus
  all_goals simp [h61] at hc  -- eq1, gt, lt, the rest

/-- every row of `cont` is a row of `needSep` or false at byte 46 -/
theorem needSep_dot_of_cont {a : Src} (hc : cont a 46 = true) : needSep a (.op .dot) = true := by
  unfold cont at hc
  split at hc <;> first | rfl | cases hc

theorem needSep_eq_of_cont {a : Src} {o : Op} (ho : o = .eq1 ∨ o = .eq2) (hc : cont a 61 = true) :
    needSep a (.op o) = true := by
  unfold cont at hc
  rcases ho with rfl | rfl
  all_goals split at hc <;> first | rfl | cases hc

theorem okNext_of_not_needSep (a b : Src) (m : List Bool) (R : List Byte)
    (hb : b.valid = true) (h : needSep a b = false) : okNext a (b.text m ++ R) = true := by
  have key {c : Byte} {tl : List Byte} (hc : cont a c = true → needSep a b = true) : okNext a (c :: tl) = true :=
    okNext_of_not_cont tl (mt hc (Bool.eq_false_iff.1 h))
  cases b with
  | word w =>
    rw [← valid_applyMask m w] at hb
    show okNext a (applyMask m w ++ R) = true
    cases hw : applyMask m w with
    | nil => rw [hw] at hb; cases hb
    | cons x tl =>
      simp only [hw, Src.valid, Bool.and_eq_true] at hb
      exact key (needSep_word_of_cont hb.1)
  | num neg d =>
    cases d with
    | nil => cases hb
    | cons x tl =>
      simp only [Src.valid, Bool.and_eq_true] at hb
      cases neg
      · exact key (needSep_num_of_cont hb.1)
      · exact okNext_of_inert a 45 _ rfl (by decide)
  | str q body =>
    simp only [Src.valid, Bool.and_eq_true, Bool.or_eq_true, beq_iff_eq] at hb
    rcases hb.1 with rfl | rfl <;> exact okNext_of_inert a _ _ rfl (by decide)
  | qid body => exact okNext_of_inert a 96 _ rfl (by decide)
  | op o =>
    cases o
    case dot => exact key needSep_dot_of_cont
    case eq1 => exact key (needSep_eq_of_cont (.inl rfl))
    case eq2 => exact key (needSep_eq_of_cont (.inr rfl))
    all_goals exact okNext_of_inert a _ _ rfl (by decide)

theorem allValid_cons {p : Placed} {ps : List Placed} :
    AllValid (p :: ps) = true ↔ p.src.valid = true ∧ AllValid ps = true := by
  simp [AllValid]

theorem layoutOk_cons {p : Placed} {ps : List Placed} {trail : List Byte} :
    LayoutOk (p :: ps) trail = true ↔ (∀ c ∈ p.pre, isWs c = true) ∧ LayoutOk ps trail = true := by
  simp [LayoutOk, and_assoc]

theorem sep_tail {p : Placed} {ps : List Placed} (h : Sep (p :: ps) = true) : Sep ps = true := by
  cases ps with
  | nil => rfl
  | cons q ps => exact (Bool.and_eq_true_iff.1 h).2

theorem okNext_render (p : Placed) (ps : List Placed) (trail : List Byte)
    (hv : AllValid ps = true) (hl : LayoutOk ps trail = true) (hs : Sep (p :: ps) = true) :
    okNext p.src (render ps trail) = true := by
  cases ps with
  | nil => exact okNext_allWs _ trail (by simpa [LayoutOk] using hl)
  | cons q ps =>
    simp only [Sep, Bool.and_eq_true, Bool.or_eq_true, Bool.not_eq_true', bne_iff_ne] at hs
    simp only [render]
    cases hq : q.pre with
    | cons c pre => exact okNext_ws _ _ _ ((layoutOk_cons.1 hl).1 c (by simp [hq]))
    | nil =>
      rcases hs.1 with h | h
      · exact okNext_of_not_needSep _ _ _ _ (allValid_cons.1 hv).1 h
      · exact absurd hq h

theorem lexAll_render (ps : List Placed) (trail : List Byte)
    (hv : AllValid ps = true) (hl : LayoutOk ps trail = true) (hs : Sep ps = true) :
    lexAll (render ps trail) = expected ps := by
  induction ps with
  | nil => exact lexAll_allWs trail (by simpa [LayoutOk] using hl)
  | cons p ps ih =>
    obtain ⟨hpv, hv'⟩ := allValid_cons.1 hv
    obtain ⟨hpre, hl'⟩ := layoutOk_cons.1 hl
    rw [render, Placed.text, lexAll_src p.src p.mask p.pre _ hpv (okNext_render p ps trail hv' hl' hs) hpre,
      ih hv' hl' (sep_tail hs)]
    rfl

/-- the token a source token stands for, keyword spelling normalised -/
def canon (a : Src) : Token := normTok ⟨a.kind, a.text []⟩

theorem normTok_emit (p : Placed) (h : maskKwOnly p = true) : normTok (emit p) = canon p.src := by
  obtain ⟨a, pre, m⟩ := p
  cases a with
  | word w =>
    simp only [maskKwOnly] at h
    show normTok ⟨wordKind w, applyMask m w⟩ = normTok ⟨wordKind w, w⟩
    split at h
    · simp only [normTok, *, applyMask_map upper upper_flipCase]
    · rw [applyMask_allFalse m w h]
  | _ => rfl

theorem expected_map {β : Type} (f : Token → β) (g : Src → β) (ps : List Placed)
    (h : ∀ p ∈ ps, f (emit p) = g p.src) :
    (expected ps).map f = (ps.map (·.src)).map g ++ [f eofTok] := by
  simp only [expected, List.map_append, List.map_map, List.map_cons, List.map_nil]
  congr 1
  exact List.map_congr_left h

end LexSpec
