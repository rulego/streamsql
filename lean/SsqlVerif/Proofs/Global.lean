/-
C17: the state invariant of `processRow` (every stored group is the one its open segment determines),
what one step does to such a group, and the consequences for whole runs.
-/
import SsqlVerif.Proofs.GlobalAgg
set_option autoImplicit false

namespace Global
open Spec

variable {α κ φ ε ν : Type}

theorem findOutputSpec_some [DecidableEq φ] (outs : List (α × AggCall φ)) (c : AggCall φ) (j : Nat)
    (h : findOutputSpec outs c = some j) : ∃ o, outs[j]? = some o ∧ o.2 = c := by
  fun_induction findOutputSpec outs c generalizing j with
  | case1 => cases h
  | case2 o os =>
    cases h
    exact ⟨o, rfl, rfl⟩
  | case3 c o os ho ih =>
    obtain ⟨i, hi, rfl⟩ := Option.map_eq_some_iff.mp h
    exact ih i hi

theorem firstTs_snoc (seg : List (Row κ φ ν)) (r : Row κ φ ν) (d : Int) :
    firstTs (seg ++ [r]) d = firstTs seg r.ts := by
  cases seg <;> rfl

theorem firstTs_nonempty (seg : List (Row κ φ ν)) (d d' : Int) (h : seg.isEmpty = false) :
    firstTs seg d = firstTs seg d' := by
  cases seg with
  | nil => cases h
  | cons a l => rfl

def lastTs (seg : List (Row κ φ ν)) (dflt : Int) : Int :=
  match seg.getLast? with
  | none => dflt
  | some r => r.ts

theorem lastTs_snoc (seg : List (Row κ φ ν)) (r : Row κ φ ν) (d : Int) :
    lastTs (seg ++ [r]) d = r.ts := by
  rw [lastTs, List.getLast?_concat]

/-! What `processRow` stores for a group is determined by the group's open segment: `groupOf q k seg`
rebuilds it from the segment alone, and `Inv` below says that the stored state is this one. -/

section fromSegment
variable [DecidableEq φ] [Num ν] (q : Query α φ ν) (k : κ) (seg : List (Row κ φ ν)) (r : Row κ φ ν)

def accOf (c : AggCall φ) (seg : List (Row κ φ ν)) : Acc ν :=
  accCells c.fn (seg.map (cellOf c))

theorem accOf_snoc (c : AggCall φ) : accOf c (seg ++ [r]) = (accOf c seg).feed c.fn (cellOf c r) := by
  rw [accOf, List.map_append]
  exact accCells_snoc _ _ _

theorem result_accOf (c : AggCall φ) : (accOf c seg).result c.fn = aggOf c seg :=
  result_accCells _ _

def trigSlotOf (seg : List (Row κ φ ν)) (t : AggCall φ × Option Nat) : Option (Acc ν) :=
  if t.2.isSome then none else some (accOf t.1 seg)

theorem trigSlotOf_snoc : trigSlotOf (seg ++ [r]) = fun t => feedTrigSlot r t (trigSlotOf seg t) := by
  funext t
  unfold trigSlotOf
  cases t.2.isSome
  · exact congrArg some (accOf_snoc _ _ _)
  · rfl

/-- the defaults `0` are never read: `groupOf` is `none` on the empty segment -/
def mkGroup (q : Query α φ ν) (k : κ) (seg : List (Row κ φ ν)) : Group κ ν :=
  { key := k,
    outs := q.outputs.map fun o => accOf o.2 seg,
    trigs := (trigSpecs q).map (trigSlotOf seg),
    wstart := firstTs seg 0,
    wend := lastTs seg 0 }

/-- the entry of `gw.groups` for a group whose open segment is `seg` -/
def groupOf (q : Query α φ ν) (k : κ) (seg : List (Row κ φ ν)) : Option (Group κ ν) :=
  if seg.isEmpty then none else some (mkGroup q k seg)

/-- `k` is free: `updated` refreshes the key from the row -/
theorem updated_groupOf : updated q (groupOf q k seg) r = mkGroup q r.key (seg ++ [r]) := by
  obtain ⟨ho, ht, hw⟩ :
      (groupFor q (groupOf q k seg) r).outs = q.outputs.map (fun o => accOf o.2 seg) ∧
      (groupFor q (groupOf q k seg) r).trigs = (trigSpecs q).map (trigSlotOf seg) ∧
      (groupFor q (groupOf q k seg) r).wstart = firstTs seg r.ts := by
    cases seg <;> exact ⟨rfl, rfl, rfl⟩
  simp only [updated, feedOuts, feedTrigs, ho, ht, hw, List.zipWith_map_right, List.zipWith_self, mkGroup,
    accOf_snoc, trigSlotOf_snoc, firstTs_snoc, lastTs_snoc]

theorem outVals_mkGroup : outVals q (mkGroup q k seg) = q.outputs.map fun o => aggOf o.2 seg := by
  simp only [outVals, mkGroup, List.zipWith_map_right, List.zipWith_self, result_accOf]

theorem trigVals_mkGroup : trigVals q (mkGroup q k seg) = q.pred.leaves.map fun c => aggOf c seg := by
  rw [trigVals, outVals_mkGroup]
  simp only [mkGroup, trigSpecs, List.map_map, List.zipWith_map_left, List.zipWith_map_right, List.zipWith_self]
  refine List.map_congr_left fun c _ => ?_
  simp only [Function.comp, leafVal]
  cases h : findOutputSpec q.outputs c with
  | none => exact result_accOf seg c
  | some j =>
    obtain ⟨o, ho1, rfl⟩ := findOutputSpec_some q.outputs c j h
    show ((q.outputs.map _)[j]?).join = _
    rw [List.getElem?_map, ho1]
    rfl

theorem shouldFire_mkGroup : shouldFire q (mkGroup q k seg) = engineTrue q.pred seg := by
  simp only [shouldFire, trigVals_mkGroup, evalWith_map, engineTrue]

theorem buildResult_mkGroup : buildResult q (mkGroup q r.key (seg ++ [r])) = expected q (seg ++ [r]) r := by
  rw [buildResult, outVals_mkGroup]
  simp only [expected, mkGroup, firstTs_snoc, lastTs_snoc]

end fromSegment

section step
variable [DecidableEq φ] [DecidableEq ε] [Num ν] (enc : κ → ε) (q : Query α φ ν)

theorem step_same (st₁ st₂ : State ε κ ν) (r : Row κ φ ν) (h : st₁ (enc r.key) = st₂ (enc r.key)) :
    (step enc q st₁ r).2 = (step enc q st₂ r).2 ∧
    (step enc q st₁ r).1 (enc r.key) = (step enc q st₂ r).1 (enc r.key) := by
  unfold step
  rw [h]
  cases shouldFire q (updated q (st₂ (enc r.key)) r) <;> exact ⟨rfl, (if_pos rfl).trans (if_pos rfl).symm⟩

variable (st : State ε κ ν) (r : Row κ φ ν)

theorem step_other (e : ε) (h : e ≠ enc r.key) : (step enc q st r).1 e = st e := by
  fun_cases step enc q st r with
  | case1 hf | case2 hf => exact if_neg h -- fired, kept

theorem step_fired (h : (step enc q st r).2.isSome = true) : (step enc q st r).1 (enc r.key) = none := by
  revert h
  fun_cases step enc q st r with
  | case1 hf => exact fun _ => if_pos rfl -- fired
  | case2 hf => nofun -- kept

theorem step_groupOf (seg : List (Row κ φ ν)) (h : st (enc r.key) = groupOf q r.key seg) :
    (step enc q st r).2 =
      (if engineTrue q.pred (seg ++ [r]) then some (expected q (seg ++ [r]) r) else none) ∧
    (step enc q st r).1 (enc r.key) =
      if engineTrue q.pred (seg ++ [r]) then none else some (mkGroup q r.key (seg ++ [r])) := by
  unfold step
  rw [h, updated_groupOf, shouldFire_mkGroup, buildResult_mkGroup]
  cases engineTrue q.pred (seg ++ [r]) <;> exact ⟨rfl, if_pos rfl⟩

end step

/-- distinct keys of `K` have distinct encodings -/
def InjOn (enc : κ → ε) (K : List κ) : Prop :=
  ∀ k₁ ∈ K, ∀ k₂ ∈ K, enc k₁ = enc k₂ → k₁ = k₂

def KeysInj (enc : κ → ε) (rows : List (Row κ φ ν)) : Prop := InjOn enc (rows.map (·.key))

theorem KeysInj.prefix {enc : κ → ε} {pre rest : List (Row κ φ ν)} (h : KeysInj enc (pre ++ rest)) :
    KeysInj enc pre := by
  rw [KeysInj, List.map_append] at h
  exact fun a ha b hb => h a (List.mem_append_left _ ha) b (List.mem_append_left _ hb)

/-- the observed history of a run, most recent row first -/
def histOf (rows : List (Row κ φ ν)) (outs : List (Option (Result κ ν))) : List (Row κ φ ν × Bool) :=
  (rows.zip (outs.map Option.isSome)).reverse

section runs
variable [DecidableEq φ] [DecidableEq ε] [Num ν] (enc : κ → ε) (q : Query α φ ν)

theorem runFrom_append (st : State ε κ ν) (a b : List (Row κ φ ν)) :
    runFrom enc q st (a ++ b) = runFrom enc q st a ++ runFrom enc q (stateFrom enc q st a) b := by
  induction a generalizing st with
  | nil => rfl
  | cons r rs ih => exact congrArg (_ :: ·) (ih _)

theorem stateFrom_append (st : State ε κ ν) (a b : List (Row κ φ ν)) :
    stateFrom enc q st (a ++ b) = stateFrom enc q (stateFrom enc q st a) b := by
  induction a generalizing st with
  | nil => rfl
  | cons r rs ih => exact ih _

theorem runFrom_length (st : State ε κ ν) (rows : List (Row κ φ ν)) :
    (runFrom enc q st rows).length = rows.length := by
  induction rows generalizing st with
  | nil => rfl
  | cons r rs ih => exact congrArg (· + 1) (ih _)

theorem histOf_run_snoc (pre : List (Row κ φ ν)) (r : Row κ φ ν) :
    histOf (pre ++ [r]) (run enc q (pre ++ [r])) =
      (r, (outAt enc q pre r).isSome) :: histOf pre (run enc q pre) := by
  rw [run, runFrom_append, histOf, List.map_append,
    List.zip_append (by rw [List.length_map, runFrom_length]), List.reverse_append]
  rfl

variable [DecidableEq κ]

/-- for every key of `K`: the stored group is the group of the key's open segment -/
def Inv (enc : κ → ε) (q : Query α φ ν) (K : List κ) (st : State ε κ ν) (hist : List (Row κ φ ν × Bool)) : Prop :=
  ∀ k ∈ K, st (enc k) = groupOf q k (openSeg k hist)

section
variable (K : List κ) (hK : InjOn enc K)
include hK

theorem inv_step (st : State ε κ ν) (hist : List (Row κ φ ν × Bool)) (r : Row κ φ ν)
    (hinv : Inv enc q K st hist) (hr : r.key ∈ K) :
    Inv enc q K (step enc q st r).1 ((r, (step enc q st r).2.isSome) :: hist) := by
  intro k hk
  -- the row's own group: `step_groupOf`; any other group is untouched, its key being encoded differently
  by_cases hkr : r.key = k
  · subst hkr
    obtain ⟨ho, hs⟩ := step_groupOf enc q st r _ (hinv r.key hr)
    dsimp only [openSeg]
    rw [hs, ho, if_pos rfl]
    cases engineTrue q.pred (openSeg r.key hist ++ [r])
    · cases openSeg r.key hist <;> rfl
    · show none = groupOf q r.key []
      rfl
  · dsimp only [openSeg]
    rw [step_other enc q st r _ fun h => hkr (hK k hk r.key hr h).symm, hinv k hk, if_neg hkr]

theorem inv_stateFrom (rows : List (Row κ φ ν)) (hrows : ∀ r ∈ rows, r.key ∈ K)
    (st : State ε κ ν) (hist : List (Row κ φ ν × Bool)) (hinv : Inv enc q K st hist) :
    Inv enc q K (stateFrom enc q st rows) (histOf rows (runFrom enc q st rows) ++ hist) := by
  induction rows generalizing st hist with
  | nil => exact hinv
  | cons r rs ih =>
    show Inv enc q K _ (List.reverse (_ :: _) ++ hist)
    rw [List.reverse_cons, List.append_assoc]
    exact ih (fun x hx => hrows x (List.mem_cons_of_mem _ hx)) _ _
      (inv_step enc q K hK st hist r hinv (hrows r List.mem_cons_self))

end

end runs

/-- the rows of `r`'s group since that group last fired in the run over `pre`, including `r` -/
def segAt [DecidableEq κ] [DecidableEq φ] [DecidableEq ε] [Num ν] (enc : κ → ε) (q : Query α φ ν)
    (pre : List (Row κ φ ν)) (r : Row κ φ ν) : List (Row κ φ ν) :=
  openSeg r.key (histOf pre (run enc q pre)) ++ [r]

section
variable [DecidableEq κ] [DecidableEq φ] [DecidableEq ε] [Num ν] (enc : κ → ε) (q : Query α φ ν)
  (pre : List (Row κ φ ν)) (r : Row κ φ ν) (hK : KeysInj enc (pre ++ [r]))
include hK

theorem stateAfter_eq_groupOf :
    stateAfter enc q pre (enc r.key) = groupOf q r.key (openSeg r.key (histOf pre (run enc q pre))) := by
  have := inv_stateFrom enc q _ hK pre (fun _ hx => List.mem_map_of_mem (List.mem_append_left _ hx))
    State.empty [] (fun _ _ => rfl) r.key (List.mem_map_of_mem (List.mem_append_right _ List.mem_cons_self))
  rwa [List.append_nil] at this

theorem outAt_eq : outAt enc q pre r =
    if engineTrue q.pred (segAt enc q pre r) then some (expected q (segAt enc q pre r) r) else none :=
  (step_groupOf enc q _ r _ (stateAfter_eq_groupOf enc q pre r hK)).1

theorem outAt_isSome : (outAt enc q pre r).isSome = engineTrue q.pred (segAt enc q pre r) := by
  rw [outAt_eq enc q pre r hK]
  cases engineTrue q.pred (segAt enc q pre r) <;> rfl

end

end Global
