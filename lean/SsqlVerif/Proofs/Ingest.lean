/-
Reachability, where the rows are, and the conservation invariant in counting form — every row
handed to Emit is in exactly one place — with the changes of the state that keep it.
-/
import SsqlVerif.Model.Ingest
set_option autoImplicit false

namespace Ingest

theorem sum_map_set {α : Type} (g : α → Nat) {l : List α} {i : Nat} {a : α} (b : α) (h : l[i]? = some a) :
    ((l.set i b).map g).sum + g a = (l.map g).sum + g b := by
  induction l generalizing i with
  | nil => simp at h
  | cons x xs ih =>
    cases i with
    | zero =>
      cases h
      simp only [List.set_cons_zero, List.map_cons, List.sum_cons]
      ac_rfl
    | succ k =>
      simp only [List.set_cons_succ, List.map_cons, List.sum_cons]
      rw [Nat.add_assoc, ih (i := k) h, Nat.add_assoc]

theorem count_flatMap_set {α β : Type} [BEq β] (f : α → List β) (r : β) {l : List α} {i : Nat} {a : α}
    (b : α) (h : l[i]? = some a) :
    List.count r ((l.set i b).flatMap f) + List.count r (f a) = List.count r (l.flatMap f) + List.count r (f b) := by
  rw [List.count_flatMap, List.count_flatMap]
  exact sum_map_set (List.count r ∘ f) b h

theorem length_flatMap_set {α β : Type} (f : α → List β) {l : List α} {i : Nat} {a : α} (b : α)
    (h : l[i]? = some a) :
    ((l.set i b).flatMap f).length + (f a).length = (l.flatMap f).length + (f b).length := by
  rw [List.length_flatMap, List.length_flatMap]
  exact sum_map_set (fun x => (f x).length) b h

theorem getElem?_set_of_some {α : Type} {l : List α} {i : Nat} {b : α} (a : α) (h : l[i]? = some b) :
    (l.set i a)[i]? = some a :=
  List.getElem?_set_self (List.getElem?_eq_some_iff.mp h).1

theorem ite_none_eq_some {α : Type} {b : Prop} [Decidable b] {x : Option α} {n : α}
    (h : (if b then none else x) = some n) : ¬ b ∧ x = some n := by
  split at h
  · cases h
  · exact ⟨‹_›, h⟩

inductive Reach (c : Cfg) (n : Nat) : State → Prop where
  | init : Reach c n (init c n)
  | step {s s' : State} (t : Tid) (w : Wit) : Reach c n s → step c s t w = some s' → Reach c n s'

theorem run_reach (c : Cfg) (n : Nat) (sched : List (Tid × Wit)) :
    ∀ s, Reach c n s → Reach c n (run c s sched) := by
  induction sched with
  | nil =>
    intro s h
    exact h
  | cons x rest ih =>
    intro s h
    obtain ⟨t, w⟩ := x
    simp only [run]
    cases hs : step c s t w with
    | none => exact ih s h
    | some s' => exact ih s' (Reach.step t w h hs)

/-- the row of the Emit call in progress -/
def flyRows (p : Prod) : List Row := p.cur.toList
/-- all rows producer `p` has handed to Emit so far -/
def entRows (p : Prod) : List Row := (List.range p.next).map (Row.mk p.id)

/-- the rows that have left their Emit call -/
def settled (s : State) : List Row :=
  s.processed ++ s.dropped ++ s.exits ++ s.chans.flatMap (·.buf)

/-- every place a row can be: processed, counted as dropped, returned because the stream
stopped, buffered in some channel, or still inside its Emit call -/
def accounted (s : State) : List Row :=
  s.processed ++ s.dropped ++ s.exits ++ s.chans.flatMap (·.buf) ++ s.prods.flatMap flyRows

/-- every row handed to Emit -/
def entered (s : State) : List Row := s.prods.flatMap entRows

theorem accounted_eq (s : State) : accounted s = settled s ++ s.prods.flatMap flyRows := rfl

theorem count_settled (r : Row) (s : State) : List.count r (settled s) =
    List.count r s.processed + List.count r s.dropped + List.count r s.exits +
      List.count r (s.chans.flatMap (·.buf)) := by
  simp only [settled, List.count_append]

@[simp] theorem length_entRows (p : Prod) : (entRows p).length = p.next := by simp [entRows]

def Next.nonIdle : Next → Prop
  | .goto pc => pc ≠ .idle
  | _ => True

theorem nonIdle_goto (pc : PC) (h : pc ≠ .idle) : (Next.goto pc).nonIdle := h

/-- the record `Next.apply` writes -/
def Next.record (p : Prod) : Next → Prod
  | .goto pc => { p with pc := pc }
  | _ => idled p

@[simp] theorem apply_prods (s : State) (i : Nat) (p : Prod) (nx : Next) :
    (nx.apply s i p).prods = s.prods.set i (nx.record p) := by cases nx <;> rfl

@[simp] theorem flyRows_idled (p : Prod) : flyRows (idled p) = [] := by simp [flyRows, idled]
@[simp] theorem entRows_idled (p : Prod) : entRows (idled p) = entRows p := by simp [entRows, idled]
@[simp] theorem flyRows_setpc (p : Prod) (pc : PC) : flyRows { p with pc := pc } = flyRows p := rfl
@[simp] theorem entRows_setpc (p : Prod) (pc : PC) : entRows { p with pc := pc } = entRows p := rfl

@[simp] theorem entRows_record (p : Prod) (nx : Next) : entRows (nx.record p) = entRows p := by
  cases nx <;> simp [Next.record]

/-- the row of the record stays with it or goes to exactly one of `dropped`, `exits` -/
theorem settled_apply (r : Row) (s : State) (i : Nat) (p : Prod) (nx : Next) :
    List.count r (settled (nx.apply s i p)) + List.count r (flyRows (nx.record p)) =
      List.count r (settled s) + List.count r (flyRows p) := by
  cases nx with
  | goto pc => rfl
  | _ =>
    simp only [count_settled, Next.apply, Next.record, flyRows_idled, List.count_append, List.count_nil]
    show _ = _ + List.count r p.cur.toList
    omega

/-- conservation: every row handed to Emit is in exactly one place; outside Emit a producer carries
no row; `input_count` counts the Emit calls -/
structure CI (s : State) : Prop where
  rows : ∀ r, List.count r (accounted s) = List.count r (entered s)
  idle : ∀ p ∈ s.prods, p.pc = .idle → p.cur = none
  input : s.input = (entered s).length

theorem CI.set {s s' : State} {i : Nat} {p q : Prod} (hc : CI s) (hp : s.prods[i]? = some p)
    (hprods : s'.prods = s.prods.set i q)
    (hrows : ∀ r, List.count r (settled s') + List.count r (flyRows q) + List.count r (entRows p) =
      List.count r (settled s) + List.count r (flyRows p) + List.count r (entRows q))
    (hidle : q.pc = .idle → q.cur = none) (hin : s'.input + p.next = s.input + q.next) : CI s' where
  rows r := by
    have h1 := count_flatMap_set flyRows r q hp
    have h2 := count_flatMap_set entRows r q hp
    have h3 := hc.rows r
    have h4 := hrows r
    rw [accounted_eq, List.count_append, entered] at h3 ⊢
    rw [hprods]
    omega
  idle x hx := by
    rw [hprods] at hx
    rcases List.mem_or_eq_of_mem_set hx with hx | rfl
    · exact hc.idle x hx
    · exact hidle
  input := by
    have h1 := length_flatMap_set entRows q hp
    rw [length_entRows, length_entRows, ← hprods] at h1
    rw [hc.input] at hin
    exact Nat.add_right_cancel (hin.trans h1.symm)

theorem CI.keep {s s' : State} (hc : CI s) (hprods : s'.prods = s.prods) (hin : s'.input = s.input)
    (hrows : ∀ r, List.count r (settled s') = List.count r (settled s)) : CI s' where
  rows r := by
    have := hc.rows r
    simp only [accounted_eq, entered, List.count_append, hprods, hrows r] at this ⊢
    exact this
  idle := hprods ▸ hc.idle
  input := by
    rw [hin, entered, hprods]
    exact hc.input

/-- `s0` is the state before the step with its control fields already changed; `p` is `p0` or `emitted p0` -/
theorem CI.apply {s s0 : State} {i : Nat} {p0 p : Prod} {nx : Next} (hc : CI s) (hp : s.prods[i]? = some p0)
    (hn : nx.nonIdle) (hprods : s0.prods = s.prods)
    (hset : ∀ r, List.count r (settled s0) = List.count r (settled s))
    (hrec : ∀ r, List.count r (flyRows p) + List.count r (entRows p0) =
      List.count r (flyRows p0) + List.count r (entRows p))
    (hin : s0.input + p0.next = s.input + p.next) : CI (nx.apply s0 i p) := by
  refine hc.set hp (hprods ▸ apply_prods s0 i p nx) (fun r => ?_) ?_ ?_
  · rw [entRows_record, settled_apply r s0 i p nx, hset r, Nat.add_assoc, hrec r, Nat.add_assoc]
  · cases nx with
    | goto pc => exact fun h => absurd h hn
    | _ => exact fun _ => rfl
  · cases nx <;> exact hin

theorem entRows_emitted (p : Prod) : entRows (emitted p) = entRows p ++ flyRows (emitted p) := by
  simp [entRows, emitted, flyRows, List.range_succ]

theorem CI.push {s : State} {i h : Nat} {p : Prod} {ch : Chan} (hc : CI s) (hp : s.prods[i]? = some p)
    (hch : s.chans[h]? = some ch) :
    CI { s with chans := s.chans.set h { ch with buf := ch.buf ++ p.cur.toList },
                prods := s.prods.set i (idled p) } := by
  refine hc.set hp rfl (fun r => ?_) (fun _ => rfl) rfl
  have := count_flatMap_set (·.buf) r { ch with buf := ch.buf ++ p.cur.toList } hch
  simp only [count_settled, List.count_append, flyRows_idled, entRows_idled, List.count_nil] at this ⊢
  change _ = _ + List.count r p.cur.toList + _
  omega

theorem settled_alloc (s : State) (n : Nat) (mig : Option (Nat × Option Nat × Nat)) (r : Row) :
    List.count r (settled { s with chans := s.chans ++ [{ cap := n, buf := [] }], mig := mig }) =
      List.count r (settled s) := by
  simp [count_settled]

theorem CI.mig {s : State} {o n : Nat} {co cn : Chan} {r0 : Row} {rest : List Row} (hc : CI s) (hon : o ≠ n)
    (hco : s.chans[o]? = some co) (hcn : s.chans[n]? = some cn) (hb : co.buf = r0 :: rest) :
    CI { s with chans := (s.chans.set o { co with buf := rest }).set n { cn with buf := cn.buf ++ [r0] } } := by
  refine hc.keep rfl rfl fun r => ?_
  have h1 := count_flatMap_set (·.buf) r { co with buf := rest } hco
  have h2 := count_flatMap_set (·.buf) r { cn with buf := cn.buf ++ [r0] }
    ((List.getElem?_set_ne hon).trans hcn : (s.chans.set o { co with buf := rest })[n]? = some cn)
  simp only [count_settled, hb, List.count_append, List.count_cons, List.count_nil] at h1 h2 ⊢
  omega

theorem CI.recv {s : State} {h : Nat} {ch : Chan} {r0 : Row} {rest : List Row} {pc : CPC} (hc : CI s)
    (hch : s.chans[h]? = some ch) (hb : ch.buf = r0 :: rest) :
    CI { s with chans := s.chans.set h { ch with buf := rest }, processed := s.processed ++ [r0], cons := pc } := by
  refine hc.keep rfl rfl fun r => ?_
  have := count_flatMap_set (·.buf) r { ch with buf := rest } hch
  simp only [count_settled, hb, List.count_append, List.count_cons, List.count_nil] at this ⊢
  omega

theorem init_prods (c : Cfg) (n : Nat) (p : Prod) (h : p ∈ (init c n).prods) :
    p.pc = .idle ∧ p.next = 0 ∧ p.cur = none := by
  obtain ⟨k, _, rfl⟩ := List.mem_map.mp h
  exact ⟨rfl, rfl, rfl⟩

theorem ci_init (c : Cfg) (n : Nat) : CI (init c n) := by
  have hf : (init c n).prods.flatMap flyRows = [] :=
    List.flatMap_eq_nil_iff.mpr fun p hp => by simp [flyRows, (init_prods c n p hp).2.2]
  have he : entered (init c n) = [] :=
    List.flatMap_eq_nil_iff.mpr fun p hp => by simp [entRows, (init_prods c n p hp).2.1]
  refine ⟨fun r => ?_, fun p hp _ => (init_prods c n p hp).2.2, ?_⟩
  · rw [accounted_eq, hf, he]
    rfl
  · rw [he]
    rfl

end Ingest
