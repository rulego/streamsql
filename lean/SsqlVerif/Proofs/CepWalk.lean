/-
Helper lemmas for C15: the executable reference matcher of the oracle (`Spec.walk`) against the
declarative definition (`Spec.Lang` + `Spec.defOK`).  Whatever the pruning key, everything it
returns is admitted (`walk_sound`, `matchesFrom_sound`); with the full classification as key it
returns exactly what is admitted (`walk_ok`, `matchesFrom_exact`).
-/
import SsqlVerif.Spec.Cep
import SsqlVerif.Proofs.CepNfa
set_option autoImplicit false

namespace Cep
namespace Spec
section
variable {ρ : Type}

/-- `x` continues `s` by the classified rows `w` -/
def Cont (s x : WS ρ) (w : List (ρ × Sym)) : Prop := x.1 = s.1 ++ w ∧ s.2 = w.map (·.1) ++ x.2

theorem Cont.refl (s : WS ρ) : Cont s s [] := ⟨by simp, by simp⟩

theorem Cont.trans {s x y : WS ρ} {u v : List (ρ × Sym)} (h1 : Cont s x u) (h2 : Cont x y v) : Cont s y (u ++ v) := by
  refine ⟨?_, ?_⟩
  · rw [h2.1, h1.1]
    simp
  · rw [h1.2, h2.2]
    simp

theorem Cont.eq_of_nil {s x : WS ρ} (h : Cont s x []) : x = s :=
  Prod.ext (by simpa using h.1) (by simpa using h.2.symm)

theorem defOK_concat (d : Sym → List (ρ × Sym) → ρ → Bool) (xs ys pre : List (ρ × Sym)) :
    defOK d pre (xs ++ ys) = (defOK d pre xs && defOK d (pre ++ xs) ys) := by
  induction xs generalizing pre with
  | nil => simp [defOK]
  | cons x xs ih => simp [defOK, ih, Bool.and_assoc]

/-- both row lists are prefixes of `s.2`, equally long because the classifications are equal -/
theorem Cont.unique {s x y : WS ρ} {u v : List (ρ × Sym)} (hx : Cont s x u) (hy : Cont s y v)
    (hk : labelsOf x = labelsOf y) : x = y := by
  obtain ⟨hx1, hx2⟩ := hx
  obtain ⟨hy1, hy2⟩ := hy
  unfold labelsOf at hk
  rw [hx1, hy1, List.map_append, List.map_append] at hk
  have hl : u.map (·.2) = v.map (·.2) := List.append_cancel_left hk
  have hlen : u.length = v.length := by simpa using congrArg List.length hl
  obtain ⟨hf, h2⟩ := List.append_inj (hx2.symm.trans hy2) (by simpa using hlen)
  -- a list of pairs is the zip of its two projections
  have huv : u = v := by
    rw [← List.zip_unzip u, ← List.zip_unzip v, List.unzip_eq_map, List.unzip_eq_map]
    show List.zip (u.map (·.1)) (u.map (·.2)) = List.zip (v.map (·.1)) (v.map (·.2))
    rw [hf, hl]
  exact Prod.ext (by rw [hx1, hy1, huv]) h2

theorem Cont.split {s x : WS ρ} {w : List (ρ × Sym)} {lu lv : List Sym} (hc : Cont s x w)
    (hsplit : w.map (·.2) = lu ++ lv) :
    ∃ (y : WS ρ) (u v : List (ρ × Sym)), w = u ++ v ∧ u.map (·.2) = lu ∧ v.map (·.2) = lv ∧ Cont s y u ∧ Cont y x v := by
  refine ⟨(s.1 ++ w.take lu.length, (w.drop lu.length).map (·.1) ++ x.2), w.take lu.length, w.drop lu.length,
    (List.take_append_drop _ _).symm, ?_, ?_, ⟨rfl, ?_⟩, ⟨?_, rfl⟩⟩
  · rw [List.map_take, hsplit]
    exact List.take_left' rfl
  · rw [List.map_drop, hsplit]
    exact List.drop_left' rfl
  · show s.2 = (w.take lu.length).map (·.1) ++ ((w.drop lu.length).map (·.1) ++ x.2)
    rw [← List.append_assoc, ← List.map_append, List.take_append_drop]
    exact hc.2
  · show x.1 = (s.1 ++ w.take lu.length) ++ w.drop lu.length
    rw [List.append_assoc, List.take_append_drop]
    exact hc.1

/-- `x` continues `s` by rows whose classification is a word of `L` and satisfies DEFINE
(what `StepOK.sound` promises of every `x ∈ f s`) -/
def Adm (d : Sym → List (ρ × Sym) → ρ → Bool) (L : List Sym → Prop) (s x : WS ρ) : Prop :=
  ∃ w, Cont s x w ∧ L (w.map (·.2)) ∧ defOK d s.1 w = true

section
variable {d : Sym → List (ρ × Sym) → ρ → Bool} {L M : List Sym → Prop}

theorem Adm.refl (d : Sym → List (ρ × Sym) → ρ → Bool) (s : WS ρ) : Adm d (fun w => w = []) s s :=
  ⟨[], Cont.refl s, rfl, rfl⟩

theorem Adm.mono {s x : WS ρ} (h : Adm d L s x)
    (hL : ∀ w, L w → M w) : Adm d M s x := by
  obtain ⟨w, hc, hl, hd⟩ := h
  exact ⟨w, hc, hL _ hl, hd⟩

theorem Adm.seq {s y x : WS ρ} (h1 : Adm d L s y)
    (h2 : Adm d M y x) : Adm d (fun w => ∃ u v, w = u ++ v ∧ L u ∧ M v) s x := by
  obtain ⟨u, hu, hlu, hdu⟩ := h1
  obtain ⟨v, hv, hlv, hdv⟩ := h2
  refine ⟨u ++ v, hu.trans hv, ⟨_, _, List.map_append, hlu, hlv⟩, ?_⟩
  rw [defOK_concat, hdu, ← hu.1, hdv]
  rfl

theorem Adm.split {s x : WS ρ}
    (h : Adm d (fun w => ∃ u v, w = u ++ v ∧ L u ∧ M v) s x) : ∃ y, Adm d L s y ∧ Adm d M y x := by
  obtain ⟨w, hc, ⟨lu, lv, hsplit, hlu, hlv⟩, hd⟩ := h
  obtain ⟨y, u, v, rfl, rfl, rfl, hsy, hyx⟩ := Cont.split hc hsplit
  rw [defOK_concat, Bool.and_eq_true] at hd
  refine ⟨y, ⟨u, hsy, hlu, hd.1⟩, ⟨v, hyx, hlv, ?_⟩⟩
  rw [hsy.1]
  exact hd.2

end

theorem mem_of_mem_dedup (lf : Option (List Sym)) {l : List (WS ρ)} {x : WS ρ} (h : x ∈ dedup lf l) : x ∈ l := by
  fun_induction dedup lf l with
  | case1 => exact h -- nil
  | case2 s ss _ ih => exact List.mem_cons_of_mem _ (ih h) -- key seen
  | case3 s ss _ ih => -- kept
    exact (List.mem_cons.1 h).elim (· ▸ List.mem_cons_self ..) (List.mem_cons_of_mem _ <| ih ·)

theorem dedup_keeps_labels {l : List (WS ρ)} {x : WS ρ} (h : x ∈ l) : ∃ y ∈ dedup none l, labelsOf y = labelsOf x := by
  fun_induction dedup none l with
  | case1 => cases h -- nil
  | case2 s ss hany ih => -- key seen
    rcases List.mem_cons.1 h with rfl | h
    · obtain ⟨t, ht, hk⟩ := List.any_eq_true.1 hany
      exact ⟨t, ht, by simpa [stateKey] using hk⟩
    · exact ih h
  | case3 s ss _ ih => -- kept
    rcases List.mem_cons.1 h with rfl | h
    · exact ⟨x, List.mem_cons_self .., rfl⟩
    · obtain ⟨y, hy, hk⟩ := ih h
      exact ⟨y, List.mem_cons_of_mem _ hy, hk⟩

def Conts (s0 : WS ρ) (S : List (WS ρ)) : Prop := ∀ y ∈ S, ∃ w, Cont s0 y w

/-- continuations of one state differ in their classification, so `dedup` loses none of them -/
theorem Conts.mem_dedup {s0 : WS ρ} {l : List (WS ρ)} (hl : Conts s0 l) {x : WS ρ} (hx : x ∈ l) :
    x ∈ dedup none l := by
  obtain ⟨y, hy, hk⟩ := dedup_keeps_labels hx
  obtain ⟨u, hu⟩ := hl y (mem_of_mem_dedup none hy)
  obtain ⟨v, hv⟩ := hl x hx
  rw [← Cont.unique hu hv hk]
  exact hy

theorem Conts.dedup {s0 : WS ρ} {l : List (WS ρ)} (hl : Conts s0 l) (lf : Option (List Sym)) : Conts s0 (dedup lf l) :=
  fun y hy => hl y (mem_of_mem_dedup lf hy)

theorem Conts.flatMap {s0 : WS ρ} {S : List (WS ρ)} {f : WS ρ → List (WS ρ)} (hS : Conts s0 S)
    (hf : ∀ s x, x ∈ f s → ∃ w, Cont s x w) : Conts s0 (S.flatMap f) := by
  intro z hz
  obtain ⟨s, hs, hz⟩ := List.mem_flatMap.1 hz
  obtain ⟨u, hu⟩ := hS s hs
  obtain ⟨v, hv⟩ := hf s z hz
  exact ⟨u ++ v, hu.trans hv⟩

theorem Conts.single (s : WS ρ) : Conts s [s] := fun y hy => by
  rw [List.mem_singleton.1 hy]
  exact ⟨[], .refl s⟩

inductive StepN (f : WS ρ → List (WS ρ)) : Nat → WS ρ → WS ρ → Prop
  | zero (s : WS ρ) : StepN f 0 s s
  | succ {n : Nat} {s y x : WS ρ} : y ∈ f s → StepN f n y x → StepN f (n+1) s x

theorem StepN.trans {f : WS ρ → List (WS ρ)} {a b : Nat} {s y x : WS ρ} (h1 : StepN f a s y) (h2 : StepN f b y x) :
    StepN f (a + b) s x := by
  induction h1 with
  | zero => simpa using h2
  | succ hy _ ih =>
    rw [Nat.succ_add]
    exact .succ hy (ih h2)

theorem StepN.split {f : WS ρ → List (WS ρ)} (a : Nat) {b : Nat} {s x : WS ρ} (h : StepN f (a + b) s x) :
    ∃ y, StepN f a s y ∧ StepN f b y x := by
  induction a generalizing s with
  | zero => exact ⟨s, .zero s, by simpa using h⟩
  | succ a ih =>
    rw [Nat.succ_add] at h
    cases h with
    | succ hy hrest =>
      obtain ⟨y', h1, h2⟩ := ih hrest
      exact ⟨y', .succ hy h1, h2⟩

theorem stepN_of_mem_iterWalk (lf : Option (List Sym)) (f : WS ρ → List (WS ρ)) (k : Nat) (S : List (WS ρ)) (x : WS ρ)
    (h : x ∈ iterWalk lf f k S) : ∃ s ∈ S, StepN f k s x := by
  induction k generalizing S with
  | zero => exact ⟨x, h, StepN.zero x⟩
  | succ k ih =>
    obtain ⟨y, hy, hst⟩ := ih _ h
    obtain ⟨s, hs, hys⟩ := List.mem_flatMap.1 (mem_of_mem_dedup lf hy)
    exact ⟨s, hs, StepN.succ hys hst⟩

theorem stepN_of_mem_iterRange (lf : Option (List Sym)) (f : WS ρ → List (WS ρ)) (e : Nat) (S : List (WS ρ)) (x : WS ρ)
    (h : x ∈ iterRange lf f e S) : ∃ s ∈ S, ∃ j, j ≤ e ∧ StepN f j s x := by
  induction e generalizing S with
  | zero => exact ⟨x, h, 0, Nat.le_refl _, StepN.zero x⟩
  | succ e ih =>
    rcases List.mem_append.1 h with h | h
    · exact ⟨x, h, 0, Nat.zero_le _, StepN.zero x⟩
    · obtain ⟨y, hy, j, hj, hst⟩ := ih _ h
      obtain ⟨s, hs, hys⟩ := List.mem_flatMap.1 (mem_of_mem_dedup lf hy)
      exact ⟨s, hs, j+1, Nat.succ_le_succ hj, StepN.succ hys hst⟩

theorem stepN_of_mem_rep (lf : Option (List Sym)) (f : WS ρ → List (WS ρ)) {mn e : Nat} {s x : WS ρ}
    (h : x ∈ iterRange lf f e (iterWalk lf f mn [s])) : ∃ j, j ≤ e ∧ StepN f (mn + j) s x := by
  obtain ⟨y, hy, j, hj, h2⟩ := stepN_of_mem_iterRange lf f e _ x h
  obtain ⟨s', hs', h1⟩ := stepN_of_mem_iterWalk lf f mn _ y hy
  rw [List.mem_singleton.1 hs'] at h1
  exact ⟨j, hj, h1.trans h2⟩

/-- what a step function has to satisfy: sound and complete with respect to a language `L` -/
structure StepOK (d : Sym → List (ρ × Sym) → ρ → Bool) (f : WS ρ → List (WS ρ)) (L : List Sym → Prop) : Prop where
  sound : ∀ s x, x ∈ f s → ∃ w, Cont s x w ∧ L (w.map (·.2)) ∧ defOK d s.1 w = true
  complete : ∀ s x w, Cont s x w → L (w.map (·.2)) → defOK d s.1 w = true → x ∈ f s

section
variable {d : Sym → List (ρ × Sym) → ρ → Bool} {f : WS ρ → List (WS ρ)} {L : List Sym → Prop}

theorem StepN.adm (hf : ∀ s x, x ∈ f s → Adm d L s x) {n : Nat} {s x : WS ρ} (h : StepN f n s x) : Adm d (Pow L n) s x := by
  induction h with
  | zero s => exact .refl d s
  | succ hy _ ih => exact (hf _ _ hy).seq ih

theorem StepN.of_adm (hf : StepOK d f L) (n : Nat) {s x : WS ρ} (h : Adm d (Pow L n) s x) : StepN f n s x := by
  induction n generalizing s with
  | zero =>
    obtain ⟨w, hc, hp, _⟩ := h
    obtain rfl : w = [] := List.map_eq_nil_iff.1 hp
    rw [hc.eq_of_nil]
    exact .zero s
  | succ n ih =>
    obtain ⟨y, ⟨u, hu, hlu, hdu⟩, hyx⟩ := Adm.split h
    exact .succ (hf.complete s y u hu hlu hdu) (ih hyx)

theorem Conts.iterWalk (hf : StepOK d f L) {s0 : WS ρ} {S : List (WS ρ)} (hS : Conts s0 S) (lf : Option (List Sym)) (k : Nat) :
    Conts s0 (iterWalk lf f k S) := by
  intro x hx
  obtain ⟨s, hs, hst⟩ := stepN_of_mem_iterWalk lf f k S x hx
  obtain ⟨u, hu⟩ := hS s hs
  obtain ⟨v, hv, _⟩ := StepN.adm hf.sound hst
  exact ⟨u ++ v, hu.trans hv⟩

theorem Conts.iterRange (hf : StepOK d f L) {s0 : WS ρ} {S : List (WS ρ)} (hS : Conts s0 S) (lf : Option (List Sym)) (e : Nat) :
    Conts s0 (iterRange lf f e S) := by
  intro x hx
  obtain ⟨s, hs, j, _, hst⟩ := stepN_of_mem_iterRange lf f e S x hx
  obtain ⟨u, hu⟩ := hS s hs
  obtain ⟨v, hv, _⟩ := StepN.adm hf.sound hst
  exact ⟨u ++ v, hu.trans hv⟩

theorem mem_round (hf : StepOK d f L) {s0 s y : WS ρ} {S : List (WS ρ)} (hS : Conts s0 S) (hs : s ∈ S) (hy : y ∈ f s) :
    Conts s0 (dedup none (S.flatMap f)) ∧ y ∈ dedup none (S.flatMap f) :=
  have hall := hS.flatMap fun s x hx => (hf.sound s x hx).imp fun _ h => h.1
  ⟨hall.dedup none, hall.mem_dedup (List.mem_flatMap.2 ⟨s, hs, hy⟩)⟩

theorem mem_iterWalk_of_stepN (hf : StepOK d f L) {s0 s x : WS ρ} {k : Nat} {S : List (WS ρ)} (hS : Conts s0 S) (hs : s ∈ S)
    (h : StepN f k s x) : x ∈ iterWalk none f k S := by
  induction h generalizing S with
  | zero => exact hs
  | succ hy _ ih =>
    obtain ⟨h1, h2⟩ := mem_round hf hS hs hy
    exact ih h1 h2

theorem mem_iterRange_of_stepN (hf : StepOK d f L) {s0 s x : WS ρ} {j e : Nat} {S : List (WS ρ)} (hS : Conts s0 S)
    (hs : s ∈ S) (hj : j ≤ e)
    (h : StepN f j s x) : x ∈ iterRange none f e S := by
  induction h generalizing S e with
  | zero =>
    cases e with
    | zero => exact hs
    | succ e => exact List.mem_append_left _ hs
  | succ hy _ ih =>
    obtain ⟨e, rfl⟩ := Nat.exists_eq_add_of_le' hj
    obtain ⟨h1, h2⟩ := mem_round hf hS hs hy
    exact List.mem_append_right _ (ih h1 h2 (Nat.le_of_succ_le_succ hj))

/-- steps that consume nothing can be left out: at most `|rows left|` steps are needed -/
theorem StepN.shorten (hf : StepOK d f L) {n : Nat} {s x : WS ρ} (h : StepN f n s x) : ∃ j, j ≤ s.2.length ∧ StepN f j s x := by
  induction h with
  | zero s => exact ⟨0, Nat.zero_le _, StepN.zero s⟩
  | @succ n s y x hy _ ih =>
    obtain ⟨j, hj, hst⟩ := ih
    obtain ⟨w, hw, _, _⟩ := hf.sound s y hy
    cases w with
    | nil =>
      rw [← hw.eq_of_nil]
      exact ⟨j, hj, hst⟩
    | cons a w' =>
      have hlen : y.2.length < s.2.length := by
        rw [hw.2]
        simp
        exact Nat.lt_succ_of_le (Nat.le_add_left ..)
      exact ⟨j+1, Nat.lt_of_le_of_lt hj hlen, StepN.succ hy hst⟩

theorem mem_rep_of_stepN (hf : StepOK d f L) {mn e j : Nat} {s y x : WS ρ} (h1 : StepN f mn s y) (h2 : StepN f j y x)
    (hj : j ≤ e) :
    x ∈ dedup none (iterRange none f e (iterWalk none f mn [s])) :=
  have hS := (Conts.single s).iterWalk hf none mn
  (hS.iterRange hf none e).mem_dedup
    (mem_iterRange_of_stepN hf hS (mem_iterWalk_of_stepN hf (.single s) (List.mem_singleton.2 rfl) h1) hj h2)

end

theorem walkLit_ok (d : Sym → List (ρ × Sym) → ρ → Bool) (a : Sym) : StepOK d (walkLit d a) (fun w => w = [a]) where
  sound s x hx := by
    revert hx
    fun_cases walkLit d a s with
    | case1 => nofun -- no row left
    | case2 r rs hs hd => -- DEFINE holds
      intro hx
      rw [List.mem_singleton.1 hx]
      exact ⟨[(r, a)], ⟨rfl, hs⟩, rfl, by simp [defOK, hd]⟩
    | case3 => nofun -- DEFINE fails
  complete s x w hc hl hd := by
    match w, hl with
    | [(r, _)], rfl =>
      have hd' : d a s.1 r = true := by simpa [defOK] using hd
      have h2 : s.2 = r :: x.2 := hc.2
      unfold walkLit
      rw [h2]
      dsimp only
      rw [if_pos hd']
      exact List.mem_singleton.2 (Prod.ext hc.1 rfl)

/-- whatever the pruning key, what the reference matcher returns is admitted -/
theorem walk_sound (lf : Option (List Sym)) (d : Sym → List (ρ × Sym) → ρ → Bool) (p : Pat) (hv : p.valid)
    (s x : WS ρ) (hx : x ∈ walk lf d p s) : Adm d (Lang p) s x := by
  induction p generalizing s x with
  | lit a => exact (walkLit_ok d a).sound s x hx
  | empty =>
    rw [List.mem_singleton.1 hx]
    exact Adm.refl d s
  | seq p q ihp ihq =>
    obtain ⟨y, hy, hxy⟩ := List.mem_flatMap.1 (mem_of_mem_dedup lf hx)
    exact (ihp hv.1 s y hy).seq (ihq hv.2 y x hxy)
  | alt p q ihp ihq =>
    rcases List.mem_append.1 (mem_of_mem_dedup lf hx) with h | h
    · exact (ihp hv.1 s x h).mono fun _ => .inl
    · exact (ihq hv.2 s x h).mono fun _ => .inr
  | rep p mn mx ih =>
    cases mx with
    | none =>
      obtain ⟨j, _, h⟩ := stepN_of_mem_rep lf _ (mem_of_mem_dedup lf hx)
      exact (StepN.adm (ih hv) h).mono fun w hw => ⟨mn + j, Nat.le_add_right .., nofun, hw⟩
    | some mx =>
      obtain ⟨j, hj, h⟩ := stepN_of_mem_rep lf _ (mem_of_mem_dedup lf hx)
      refine (StepN.adm (ih hv.1) h).mono fun w hw => ⟨mn + j, Nat.le_add_right .., fun m hm => ?_, hw⟩
      cases hm
      exact Nat.add_le_of_le_sub' hv.2 hj

/-- with the classification as key the reference matcher returns exactly what is admitted -/
theorem walk_ok (d : Sym → List (ρ × Sym) → ρ → Bool) (p : Pat) (hv : p.valid) : StepOK d (walk none d p) (Lang p) := by
  refine ⟨walk_sound none d p hv, fun s x w hc hl hd => ?_⟩
  have hcont : ∀ p, p.valid → ∀ s : WS ρ, Conts s (walk none d p s) :=
    fun p hv s x hx => (walk_sound none d p hv s x hx).imp fun _ h => h.1
  induction p generalizing s x w with
  | lit a => exact (walkLit_ok d a).complete s x w hc hl hd
  | empty =>
    obtain rfl : w = [] := List.map_eq_nil_iff.1 hl
    exact List.mem_singleton.2 hc.eq_of_nil
  | seq p q ihp ihq =>
    obtain ⟨y, ⟨u, hu, hlu, hdu⟩, ⟨v, hc', hlv, hdv⟩⟩ := Adm.split ⟨w, hc, hl, hd⟩
    have hall : Conts s ((walk none d p s).flatMap (walk none d q)) := (hcont p hv.1 s).flatMap (hcont q hv.2)
    exact hall.mem_dedup (List.mem_flatMap.2 ⟨y, ihp hv.1 s y u hu hlu hdu, ihq hv.2 y x v hc' hlv hdv⟩)
  | alt p q ihp ihq =>
    have hall : Conts s (walk none d p s ++ walk none d q s) := fun z hz =>
      (List.mem_append.1 hz).elim (hcont p hv.1 s z) (hcont q hv.2 s z)
    exact hall.mem_dedup (List.mem_append.2 (hl.imp (ihp hv.1 s x w hc · hd) (ihq hv.2 s x w hc · hd)))
  | rep p mn mx ih =>
    obtain ⟨n, hn, hm, hpow⟩ := hl
    obtain ⟨k, rfl⟩ := Nat.exists_eq_add_of_le hn
    cases mx with
    | none =>
      have hp : StepOK d (walk none d p) (Lang p) := ⟨walk_sound none d p hv, ih hv⟩
      obtain ⟨y, h1, h2⟩ := StepN.split mn (StepN.of_adm hp _ ⟨w, hc, hpow, hd⟩)
      -- the first `mn` steps, then the rest without the steps that consume nothing
      obtain ⟨j, hj, h3⟩ := StepN.shorten hp h2
      obtain ⟨u, hu, _⟩ := StepN.adm hp.sound h1
      have hyl : y.2.length ≤ s.2.length := by
        rw [hu.2]
        simp
      exact mem_rep_of_stepN hp h1 h3 (Nat.le_trans hj hyl)
    | some mx =>
      have hp : StepOK d (walk none d p) (Lang p) := ⟨walk_sound none d p hv.1, ih hv.1⟩
      obtain ⟨y, h1, h2⟩ := StepN.split mn (StepN.of_adm hp _ ⟨w, hc, hpow, hd⟩)
      exact mem_rep_of_stepN hp h1 h2 (Nat.le_sub_of_add_le' (hm mx rfl))

theorem mem_matchesFrom {q : Query ρ} {rows : List ρ} {m : List (ρ × Sym)} :
    m ∈ matchesFrom q rows ↔ (∃ x ∈ walk q.keySyms q.define q.pat ([], rows), x.1 = m) ∧
      m ≠ [] ∧ withinOK q.ts q.within (m.map (·.1)) = true := by
  simp only [matchesFrom, List.mem_filter, List.mem_map, Bool.and_eq_true, Bool.not_eq_true', List.isEmpty_eq_false_iff,
    ne_eq]

/-- every match the reference reports is valid and lies on the first rows (any pruning key) -/
theorem matchesFrom_sound (q : Query ρ) (hv : q.pat.valid) (rows : List ρ) (m : List (ρ × Sym))
    (h : m ∈ matchesFrom q rows) : ValidMatch q m ∧ m.map (·.1) = rows.take m.length := by
  obtain ⟨⟨⟨m', rest⟩, hx, rfl⟩, hne, hwin⟩ := mem_matchesFrom.1 h
  obtain ⟨w, ⟨h1, h2⟩, hl, hd⟩ := walk_sound q.keySyms q.define q.pat hv ([], rows) _ hx
  obtain rfl : m' = w := h1
  refine ⟨⟨hne, hl, hd, hwin⟩, ?_⟩
  rw [show rows = _ from h2]
  exact (List.take_left' (by simp)).symm

/-- with the classification itself as state key the reference reports exactly the valid matches -/
theorem matchesFrom_exact (q : Query ρ) (hv : q.pat.valid) (hk : q.keySyms = none) (rows : List ρ) (m : List (ρ × Sym)) :
    m ∈ matchesFrom q rows ↔ (ValidMatch q m ∧ m.map (·.1) = rows.take m.length) := by
  refine ⟨matchesFrom_sound q hv rows m, fun ⟨⟨hne, hl, hd, hwin⟩, hrows⟩ => ?_⟩
  refine mem_matchesFrom.2 ⟨⟨(m, rows.drop m.length), ?_, rfl⟩, hne, hwin⟩
  rw [hk]
  refine (walk_ok q.define q.pat hv).complete ([], rows) _ m ⟨(List.nil_append m).symm, ?_⟩ hl hd
  rw [hrows]
  exact (List.take_append_drop ..).symm

end
end Spec
end Cep
