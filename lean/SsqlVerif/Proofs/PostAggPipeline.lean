/-
The stages of `processAggregationResults` on the result rows of a batch's groups, seen through `visible`,
are the relational stages on the spec rows; the oracle `Spec.valid` tests exactly `Legal`.
-/
import SsqlVerif.Proofs.PostAggRow
import SsqlVerif.Proofs.PostAggOrder
set_option autoImplicit false

namespace PostAgg
variable {ν : Type} (N : Num ν) [DecidableEq ν]

theorem addToGroups_keys (gcol : Name) (r : InRow ν) (gs : List (Group ν)) :
    (addToGroups gcol r gs).map (·.key) =
      if (lookupIn gcol r).getD .null ∈ gs.map (·.key) then gs.map (·.key)
      else gs.map (·.key) ++ [(lookupIn gcol r).getD .null] := by
  fun_induction addToGroups gcol r gs with
  | case1 => rfl  -- no group yet
  | case2 g gs hk =>  -- key found
    rw [if_pos (hk ▸ List.mem_cons_self ..)]
    rfl
  | case3 g gs hk ih =>  -- another key
    rw [List.map_cons, List.map_cons, ih]
    by_cases hm : (lookupIn gcol r).getD .null ∈ gs.map (·.key)
    · rw [if_pos hm, if_pos (List.mem_cons_of_mem _ hm)]
    · rw [if_neg hm, if_neg fun h => (List.mem_cons.mp h).elim (fun e => hk e.symm) hm]
      rfl

theorem lessBy_visible (keys : List (Name × Bool)) (a b : Row ν) :
    lessBy N get (keys.map (fun kd => (Key.col kd.1, kd.2))) a b
      = lessBy N lookupIn keys (visible a) (visible b) := by
  induction keys with
  | nil => rfl
  | cons kd ks ih => simp only [List.map_cons, lessBy, get_col_visible, ih]

variable (q : Query ν)

/-- the two shortcuts of `Sorter.Sort` return what the sort would -/
theorem applyOrderBy_eq (rows : List (Row ν)) :
    applyOrderBy N q rows = sortBy (rowLess N q) rows := by
  fun_cases applyOrderBy N q rows with
  | case1 h =>  -- shortcut
    refine (sortBy_of_sorted _ rows ?_).symm
    rcases Bool.or_eq_true_iff.mp h with h | h
    · have : q.orderBy = [] := List.isEmpty_iff.mp h
      refine List.pairwise_of_forall fun a b => ?_
      rw [rowLess, orderKeys, this]
      rfl
    · match rows, of_decide_eq_true h with
      | [], _ => exact List.Pairwise.nil
      | [x], _ => exact List.pairwise_singleton _ x
  | case2 => rfl  -- sort

omit [DecidableEq ν] in
theorem specRow_key (g : Group ν) : lookupIn q.gcol (Spec.specRow N q g) = some g.key :=
  if_pos rfl

theorem fullRows_nodup (hq : wf q = true) (gs : List (Group ν))
    (hk : (gs.map (·.key)).Nodup) : (gs.map (fullRow N q)).Nodup :=
  nodup_map_of_key _ _ (get (.col q.gcol))
    (fun g => by rw [get_col_visible, visible_fullRow N q hq, specRow_key]) gs hk

omit [DecidableEq ν] in
theorem specRows_nodup (gs : List (Group ν))
    (hk : (gs.map (·.key)).Nodup) : (gs.map (Spec.specRow N q)).Nodup :=
  nodup_map_of_key _ _ (lookupIn q.gcol) (specRow_key N q) gs hk

theorem havingStage_visible (hq : wf q = true) (gs : List (Group ν)) :
    (havingStage N q.having (gs.map (fullRow N q))).map visible
      = (gs.filter (Spec.specHaving N q)).map (Spec.specRow N q) := by
  cases hh : q.having with
  | none =>
    have hall : gs.filter (Spec.specHaving N q) = gs :=
      List.filter_eq_self.mpr fun g _ => by rw [Spec.specHaving, hh]
    rw [hall, havingStage, List.map_map]
    exact List.map_congr_left fun g _ => visible_fullRow N q hq g
  | some p =>
    have hf : gs.filter (havingKeep N p ∘ fullRow N q) = gs.filter (Spec.specHaving N q) :=
      List.filter_congr fun g _ => havingKeep_fullRow N q hq g p hh
    rw [havingStage, List.filter_map, List.map_map, List.map_map, hf]
    refine List.map_congr_left fun g _ => ?_
    exact (visible_filter _ (fun _ _ => rfl) _).trans (visible_fullRow N q hq g)

/-- Every row carries its group's key, so rows of groups with different keys differ and DISTINCT changes
nothing: on the code's side before HAVING (`fullRows_nodup`), on the spec's after it. -/
theorem candidates_eq (gs : List (Group ν)) (hk : (gs.map (·.key)).Nodup) :
    Spec.candidates N q gs = (gs.filter (Spec.specHaving N q)).map (Spec.specRow N q) := by
  unfold Spec.candidates
  split
  · exact dedup_of_nodup _ (specRows_nodup N q _ (hk.sublist (List.filter_sublist.map _)))
  · rfl

theorem run_visible (hq : wf q = true) (gs : List (Group ν)) (hk : (gs.map (·.key)).Nodup) :
    (run N q gs).map visible = Spec.run N q gs := by
  unfold run pipeline Spec.run
  -- DISTINCT drops out on both sides (`candidates_eq`)
  rw [applyLimit_map, applyOrderBy_eq,
    sortBy_map (rowLess N q) visible (Spec.specLess N q) _ (fun a _ b _ => lessBy_visible N q.orderBy a b),
    distinctStage_of_nodup _ _ (fullRows_nodup N q hq gs hk),
    havingStage_visible N q hq gs, candidates_eq N q gs hk]

theorem candidates_perm (gs gs' : List (Group ν)) (hp : gs'.Perm gs)
    (hk : (gs.map (·.key)).Nodup) :
    (Spec.candidates N q gs').Perm (Spec.candidates N q gs) := by
  rw [candidates_eq N q gs hk, candidates_eq N q gs' ((hp.map _).nodup_iff.mpr hk)]
  exact (hp.filter _).map _

theorem candidates_nodup (gs : List (Group ν)) (hk : (gs.map (·.key)).Nodup) :
    (Spec.candidates N q gs).Nodup := by
  rw [candidates_eq N q gs hk]
  exact specRows_nodup N q _ (hk.sublist (List.filter_sublist.map _))

theorem valid_iff (gs : List (Group ν)) (out : List (Spec.SRow ν)) :
    Spec.valid N q gs out = true ↔ Legal (Spec.specLess N q) q.limit (Spec.candidates N q gs) out := by
  have step : ∀ (b : Bool) (s : String) (e : Option String),
      (if b = false then some s else e).isNone = true ↔ b = true ∧ e.isNone = true := by
    intro b s e
    cases b <;> simp
  simp only [Spec.valid, Spec.validClause, bne, step, Legal, List.all_eq_true, List.contains_iff_mem,
    nodupB_iff, sortedBy_iff, beq_iff_eq, Bool.or_eq_true, Bool.not_eq_true', Option.isNone_none, and_true]

end PostAgg
