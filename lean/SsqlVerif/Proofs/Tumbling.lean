/-
The tumbling-window state machine step by step: slot arithmetic, what the trigger loop and an Add do, and
conservation of the accepted rows (C01/C02).
-/
import SsqlVerif.Model.Tumbling
import SsqlVerif.Proofs.Watermark
set_option autoImplicit false

namespace Tumbling
open Wm

theorem alignDown_le (t size : Int) (ht : 0 ≤ t) (hs : 0 < size) : alignDown t size ≤ t := by
  unfold alignDown
  rw [Int.tdiv_eq_ediv_of_nonneg ht]
  exact Int.ediv_mul_le t (Int.ne_of_gt hs)

theorem lt_alignDown_add (t size : Int) (ht : 0 ≤ t) (hs : 0 < size) : t < alignDown t size + size := by
  unfold alignDown
  rw [Int.tdiv_eq_ediv_of_nonneg ht]
  have := Int.lt_ediv_add_one_mul_self t hs
  rw [Int.add_mul, Int.one_mul] at this
  exact this

theorem alignDown_dvd (t size : Int) : size ∣ alignDown t size := by
  unfold alignDown
  exact Int.dvd_mul_left _ _

theorem lt_of_add_le {a d c : Int} (hd : 0 < d) (h : a + d ≤ c) : a < c :=
  Int.lt_of_lt_of_le (Int.lt_add_of_pos_right a hd) h

theorem lattice_lt_succ (k c d : Int) (hs : 0 < d) (hk : d ∣ k) (hc : d ∣ c) (h : k < c + d) : k ≤ c := by
  obtain ⟨a, rfl⟩ := hk
  obtain ⟨b, rfl⟩ := hc
  have : a < b + 1 := Int.lt_of_mul_lt_mul_left (by rw [Int.mul_add, Int.mul_one]; exact h) (Int.le_of_lt hs)
  exact Int.mul_le_mul_of_nonneg_left (Int.lt_add_one_iff.mp this) (Int.le_of_lt hs)

theorem le_alignDown_of_dvd (c t size : Int) (ht : 0 ≤ t) (hs : 0 < size)
    (hd : size ∣ c) (hle : c ≤ t) : c ≤ alignDown t size :=
  lattice_lt_succ c _ size hs hd (alignDown_dvd _ _) (Int.lt_of_le_of_lt hle (lt_alignDown_add t size ht hs))

theorem inSlot_iff (size c : Int) (r : Row) : inSlot size c r = true ↔ c ≤ r.ts ∧ r.ts < c + size := by
  simp only [inSlot, Bool.and_eq_true, decide_eq_true_eq]

theorem inSlot_alignDown (size : Int) (r : Row) (ht : 0 ≤ r.ts) (hs : 0 < size) :
    inSlot size (alignDown r.ts size) r = true :=
  (inSlot_iff _ _ _).mpr ⟨alignDown_le _ _ ht hs, lt_alignDown_add _ _ ht hs⟩

theorem inSlot_unique (size a b : Int) (r : Row) (hs : 0 < size) (ha : size ∣ a) (hb : size ∣ b)
    (h1 : inSlot size a r = true) (h2 : inSlot size b r = true) : a = b := by
  rw [inSlot_iff] at h1 h2
  exact Int.le_antisymm (lattice_lt_succ a b size hs ha hb (Int.lt_of_le_of_lt h1.1 h2.2))
    (lattice_lt_succ b a size hs hb ha (Int.lt_of_le_of_lt h2.1 h1.2))

theorem inSlot_false_ge (size c : Int) (x : Row) (hc : c ≤ x.ts) (h : inSlot size c x = false) :
    c + size ≤ x.ts := by
  have := mt (inSlot_iff size c x).mpr (by simp [h])
  exact Int.not_lt.mp fun hlt => this ⟨hc, hlt⟩

def rowsOf (es : List Emission) : List Row := es.flatMap (·.rows)

theorem rowsOf_append (a b : List Emission) : rowsOf (a ++ b) = rowsOf a ++ rowsOf b :=
  List.flatMap_append

/-- rows reported by first firings (late re-deliveries repeat rows and are left out) -/
def firstRowsOf (es : List Emission) : List Row := rowsOf (es.filter (fun e => decide (e.kind = .first)))

theorem firstRowsOf_append (a b : List Emission) : firstRowsOf (a ++ b) = firstRowsOf a ++ firstRowsOf b := by
  simp only [firstRowsOf, List.filter_append, rowsOf_append]

/-- rows accepted (buffered for a first firing) by one op -/
def acceptedBy (s : TW) : Op → List Row
  | .add r now => match fate s r now with | .keep => [r] | _ => []
  | _ => []

def acceptedRows (s : TW) : List Op → List Row
  | [] => []
  | op :: ops => acceptedBy s op ++ acceptedRows (step s op).1 ops

theorem fireOrSkip_frame (s : TW) (c : Int) :
    (fireOrSkip s c).1.cur = some (c + s.size) ∧ (fireOrSkip s c).1.data = restRows s c ∧
    (fireOrSkip s c).1.wm = s.wm ∧ (fireOrSkip s c).1.size = s.size ∧ (fireOrSkip s c).1.lateness = s.lateness ∧
    (fireOrSkip s c).1.trigW = s.trigW ∧ (fireOrSkip s c).1.doneW = s.doneW := by
  fun_cases fireOrSkip s c
  case case1 hempty =>  -- skip
    have h0 : s.data.filter (inSlot s.size c) = [] := List.isEmpty_iff.mp hempty
    -- nothing in the slot: the rows outside it are all rows
    exact ⟨rfl, (List.filter_eq_self.mpr fun x hx => by simpa using List.filter_eq_nil_iff.mp h0 x hx).symm,
      rfl, rfl, rfl, rfl, rfl⟩
  case case2 => exact ⟨rfl, rfl, rfl, rfl, rfl, rfl, rfl⟩  -- fire

theorem fireOrSkip_emits (s : TW) (c : Int) :
    ((fireOrSkip s c).2 = [] ∧ slotRows s c = [] ∧ (fireOrSkip s c).1.fired = s.fired) ∨
    ((fireOrSkip s c).2 = [{ kind := .first, start := c, stop := c + s.size, rows := slotRows s c }] ∧
      slotRows s c ≠ [] ∧ (fireOrSkip s c).1.fired = firedAfter s c) := by
  fun_cases fireOrSkip s c
  case case1 hempty => exact Or.inl ⟨rfl, List.isEmpty_iff.mp hempty, rfl⟩  -- skip
  case case2 hne => exact Or.inr ⟨rfl, fun h => hne (List.isEmpty_iff.mpr h), rfl⟩  -- fire

theorem stepIter_cases (s : TW) :
    (∃ w c, s.trigW = some w ∧ s.cur = some c ∧ c + s.size ≤ w ∧ stepIter s = fireOrSkip s c) ∨
    (∃ w c, s.trigW = some w ∧ s.cur = some c ∧ ¬ c + s.size ≤ w ∧ stepIter s = (closeExpired s w, [])) ∨
    stepIter s = ({ s with trigW := none }, []) ∨ stepIter s = (s, []) := by
  fun_cases stepIter s
  case case1 w c hcur htr hw => exact Or.inl ⟨w, c, htr, hcur, hw, rfl⟩  -- fire or skip
  case case2 w c hcur htr hw => exact Or.inr (Or.inl ⟨w, c, htr, hcur, hw, rfl⟩)  -- end of pass
  case case3 => exact Or.inr (Or.inr (Or.inl rfl))  -- no slot yet
  case case4 => exact Or.inr (Or.inr (Or.inr rfl))  -- idle

theorem stepIter_frame (s : TW) :
    (stepIter s).1.wm = s.wm ∧ (stepIter s).1.size = s.size ∧ (stepIter s).1.lateness = s.lateness := by
  rcases stepIter_cases s with ⟨_, c, _, _, _, h⟩ | ⟨_, _, _, _, _, h⟩ | h | h <;> rw [h]
  · obtain ⟨_, _, h1, h2, h3, _⟩ := fireOrSkip_frame s c
    exact ⟨h1, h2, h3⟩
  all_goals exact ⟨rfl, rfl, rfl⟩

theorem stepPop_cases (s : TW) :
    stepPop s = s ∨ ∃ w wm', Wm.pop s.wm = some (w, wm') ∧ stepPop s = { s with trigW := some w, wm := wm' } := by
  fun_cases stepPop s
  case case1 w wm' hp _ => exact Or.inr ⟨w, wm', hp, rfl⟩  -- receive
  case case2 => exact Or.inl rfl  -- busy or empty

theorem stepPop_frame (s : TW) :
    (stepPop s).size = s.size ∧ (stepPop s).lateness = s.lateness ∧ (stepPop s).cur = s.cur ∧
    (stepPop s).data = s.data ∧ (stepPop s).fired = s.fired := by
  fun_cases stepPop s
  all_goals exact ⟨rfl, rfl, rfl, rfl, rfl⟩

theorem step_move (s : TW) (op : Op) : Move s.wm (step s op).1.wm := by
  cases op with
  | add r now => exact .update _ _ _
  | addNoTs => exact .stay _
  | tick idle now => exact .tick _ _ _
  | pop =>
    show Move s.wm (stepPop s).wm
    rcases stepPop_cases s with h | ⟨_, _, hp, h⟩ <;> rw [h]
    · exact .stay _
    · exact .pop hp
  | iter =>
    show Move s.wm (stepIter s).1.wm
    rw [(stepIter_frame s).1]
    exact .stay _

theorem step_frame (s : TW) (op : Op) : (step s op).1.size = s.size ∧ (step s op).1.lateness = s.lateness := by
  cases op with
  | add r now => exact ⟨rfl, rfl⟩
  | addNoTs => exact ⟨rfl, rfl⟩
  | tick idle now => exact ⟨rfl, rfl⟩
  | pop => exact ⟨(stepPop_frame s).1, (stepPop_frame s).2.1⟩
  | iter => exact (stepIter_frame s).2

theorem run_frame (s : TW) (ops : List Op) : (run s ops).1.size = s.size ∧ (run s ops).1.lateness = s.lateness := by
  induction ops generalizing s with
  | nil => exact ⟨rfl, rfl⟩
  | cons op ops ih =>
    obtain ⟨h1, h2⟩ := ih (step s op).1
    obtain ⟨h3, h4⟩ := step_frame s op
    exact ⟨h1.trans h3, h2.trans h4⟩

theorem findFired_mem (s : TW) (r : Row) (now : Int) (f : Fired) (h : findFired s r now = some f) :
    f ∈ s.fired ∧ inSlot s.size f.start r = true ∧ stillOpen (wmAfter s r now).cur f = true := by
  unfold findFired at h
  have h2 := List.find?_some h
  rw [Bool.and_eq_true] at h2
  exact ⟨List.mem_of_find?_eq_some h, h2.1, h2.2⟩

theorem stillOpen_of_lt {cur : Option Int} {f : Fired} (h : ∀ c, cur = some c → c < f.close) : stillOpen cur f = true := by
  cases cur with
  | none => rfl
  | some c => exact decide_eq_true (h c rfl)

theorem fate_cases (s : TW) (r : Row) (now : Int) :
    (fate s r now = .keep ∧ (lateNow s r now = false ∨ inSlot s.size (curInit s r) r = true)) ∨
    (fate s r now = .drop ∧ lateNow s r now = true) ∨
    (∃ f, fate s r now = .lateUpdate f ∧ lateNow s r now = true ∧ 0 < s.lateness ∧ findFired s r now = some f) := by
  fun_cases fate s r now
  case case1 hl hin => exact Or.inl ⟨rfl, Or.inr hin⟩  -- late, in current slot
  case case2 hl _ hlat f hf => exact Or.inr (Or.inr ⟨f, rfl, hl, hlat, hf⟩)  -- late update
  case case3 hl _ _ _ => exact Or.inr (Or.inl ⟨rfl, hl⟩)  -- no open window
  case case4 hl _ _ => exact Or.inr (Or.inl ⟨rfl, hl⟩)  -- no allowance
  case case5 hl => exact Or.inl ⟨rfl, Or.inl (Bool.eq_false_iff.mpr hl)⟩  -- on time

theorem fate_lateUpdate (s : TW) (r : Row) (now : Int) (f : Fired) (h : fate s r now = .lateUpdate f) :
    lateNow s r now = true ∧ 0 < s.lateness ∧ findFired s r now = some f := by
  rcases fate_cases s r now with ⟨h', _⟩ | ⟨h', _⟩ | ⟨g, h', h1, h2, h3⟩ <;> rw [h'] at h
  all_goals cases h
  exact ⟨h1, h2, h3⟩

theorem fate_drop (s : TW) (r : Row) (now : Int) (h : fate s r now = .drop) : lateNow s r now = true := by
  rcases fate_cases s r now with ⟨h', _⟩ | ⟨_, h1⟩ | ⟨g, h', _⟩
  · rw [h'] at h
    cases h
  · exact h1
  · rw [h'] at h
    cases h

theorem stepAdd_cases (s : TW) (r : Row) (now : Int) :
    ((∀ f, fate s r now ≠ .lateUpdate f) ∧ (stepAdd s r now).2 = [] ∧ (stepAdd s r now).1.fired = s.fired ∧
      (stepAdd s r now).1.data = s.data ++ acceptedBy s (.add r now)) ∨
    (∃ f, fate s r now = .lateUpdate f ∧
      (stepAdd s r now).2 = [{ kind := .late, start := f.start, stop := f.start + s.size, rows := lateRows s f r }] ∧
      (stepAdd s r now).1.fired = updFired s f r ∧ (stepAdd s r now).1.data = lateData s f r ∧
      acceptedBy s (.add r now) = []) := by
  show ((∀ f, fate s r now ≠ .lateUpdate f) ∧ addEmit s r now = [] ∧ addFired s r now = s.fired ∧
      addData s r now = s.data ++ (match fate s r now with | .keep => [r] | _ => [])) ∨
    (∃ f, fate s r now = .lateUpdate f ∧ addEmit s r now = _ ∧ addFired s r now = _ ∧ addData s r now = _ ∧
      (match fate s r now with | .keep => [r] | _ => []) = [])
  unfold addEmit addFired addData
  cases fate s r now with
  | lateUpdate f => exact Or.inr ⟨f, rfl, rfl, rfl, rfl, rfl⟩
  | keep => exact Or.inl ⟨fun _ h => (nomatch h), rfl, rfl, rfl⟩
  | drop => exact Or.inl ⟨fun _ h => (nomatch h), rfl, rfl, (List.append_nil _).symm⟩

theorem mem_acceptedBy (s : TW) (r : Row) (now : Int) (x : Row) (h : x ∈ acceptedBy s (.add r now)) :
    x = r ∧ fate s r now = .keep := by
  change x ∈ (match fate s r now with | .keep => [r] | _ => []) at h
  split at h
  · exact ⟨List.mem_singleton.mp h, ‹_›⟩
  · cases h

theorem step_kind (s : TW) (op : Op) (e : Emission) (he : e ∈ (step s op).2) : e.kind = .first ∨ 0 < s.lateness := by
  cases op with
  | add r now =>
    rcases stepAdd_cases s r now with ⟨_, h, _⟩ | ⟨f, hf, _⟩
    · rw [show (step s (.add r now)).2 = [] from h] at he
      cases he
    · exact Or.inr (fate_lateUpdate s r now f hf).2.1
  | iter =>
    refine Or.inl ?_
    change e ∈ (stepIter s).2 at he
    rcases stepIter_cases s with ⟨_, c, _, _, _, h⟩ | ⟨_, _, _, _, _, h⟩ | h | h <;> rw [h] at he
    · rcases fireOrSkip_emits s c with ⟨h, _⟩ | ⟨h, _⟩ <;> rw [h] at he
      · cases he
      · rw [List.mem_singleton.mp he]
    all_goals cases he
  | _ => cases he

structure L0 (s : TW) : Prop where
  hl : s.lateness = 0
  hf : s.fired = []

theorem step_l0 (s : TW) (op : Op) (h : L0 s) : L0 (step s op).1 := by
  refine ⟨(step_frame s op).2.trans h.hl, ?_⟩
  have hn : ¬ 0 < s.lateness := h.hl ▸ Int.lt_irrefl 0
  cases op with
  | add r now =>
    rcases stepAdd_cases s r now with ⟨_, _, hf, _⟩ | ⟨f, hf, _⟩
    · exact hf.trans h.hf
    · exact absurd (fate_lateUpdate s r now f hf).2.1 hn
  | pop => exact (stepPop_frame s).2.2.2.2.trans h.hf
  | iter =>
    show (stepIter s).1.fired = []
    rcases stepIter_cases s with ⟨_, c, _, _, _, h'⟩ | ⟨_, _, _, _, _, h'⟩ | h' | h' <;> rw [h']
    · rcases fireOrSkip_emits s c with ⟨_, _, hf⟩ | ⟨_, _, hf⟩ <;> rw [hf]
      · exact h.hf
      · unfold firedAfter
        rw [if_neg hn]
        exact h.hf
    · show s.fired.filter _ = []
      rw [h.hf]
      rfl
    all_goals exact h.hf
  | _ => exact h.hf

theorem count_filter_split (p : Row → Bool) (x : Row) (l : List Row) :
    (l.filter p).count x + (l.filter (fun r => !p r)).count x = l.count x :=
  (List.countP_eq_countP_filter_add l (· == x) p).symm

/-- the balance of one step and the balance of the rest of the run add up -/
theorem count_glue {a b c d e f g : Nat} (h1 : g + b = d + e) (h2 : a + c = g + f) : a + (b + c) = d + (e + f) := by
  rw [Nat.add_left_comm, h2, ← Nat.add_assoc, Nat.add_comm b g, h1, Nat.add_assoc]

/-- no buffered row lies in the interval of a triggered window still open for late rows -/
def Apart (s : TW) : Prop := ∀ f ∈ s.fired, ∀ x ∈ s.data, inSlot s.size f.start x = false

theorem closeExpired_data (s : TW) (w : Int) (h : Apart s) : (closeExpired s w).data = s.data := by
  show s.data.filter (fun r => !(expired s w).any (fun f => inSlot s.size f.start r)) = s.data
  refine List.filter_eq_self.mpr fun x hx => ?_
  rw [Bool.not_eq_true', List.any_eq_false]
  intro f hf
  rw [h f (List.mem_filter.mp hf).1 x hx]
  decide

theorem step_conserve (s : TW) (op : Op) (x : Row) (h : Apart s) :
    (step s op).1.data.count x + (firstRowsOf (step s op).2).count x
      = s.data.count x + (acceptedBy s op).count x := by
  cases op with
  | add r now =>
    show (stepAdd s r now).1.data.count x + (firstRowsOf (stepAdd s r now).2).count x = _
    rcases stepAdd_cases s r now with ⟨_, h1, _, h3⟩ | ⟨f, hf, h1, _, h3, h4⟩
    · rw [h1, h3, List.count_append]
      rfl
    · -- a late update leaves the buffer as it was: the late row goes to the triggered window's snapshot
      obtain ⟨hm, hin, _⟩ := findFired_mem s r now f (fate_lateUpdate s r now f hf).2.2
      have hd : lateData s f r = s.data := by
        unfold lateData
        rw [List.filter_append, List.filter_eq_self.mpr fun x hx => by rw [h f hm x hx]; rfl]
        simp [hin]
      rw [h1, h3, h4, hd]
      rfl
  | pop =>
    show (stepPop s).data.count x + 0 = _ + 0
    rw [(stepPop_frame s).2.2.2.1]
  | iter =>
    show (stepIter s).1.data.count x + (firstRowsOf (stepIter s).2).count x = s.data.count x + 0
    rcases stepIter_cases s with ⟨_, c, _, _, _, h'⟩ | ⟨_, _, _, _, _, h'⟩ | h' | h' <;> rw [h']
    · have hrows : firstRowsOf (fireOrSkip s c).2 = slotRows s c := by
        rcases fireOrSkip_emits s c with ⟨he, hn, _⟩ | ⟨he, _⟩ <;> rw [he]
        · exact hn.symm
        · exact List.append_nil _
      rw [(fireOrSkip_frame s c).2.1, hrows, Nat.add_zero, ← count_filter_split (inSlot s.size c) x s.data]
      exact Nat.add_comm _ _
    · rw [closeExpired_data s _ h]
      rfl
    all_goals rfl
  | _ => rfl

/-- without an allowance nothing is ever registered, so `Apart` is trivial and the balance needs no invariant -/
theorem run_conserve (s : TW) (ops : List Op) (x : Row) (h : L0 s) :
    (run s ops).1.data.count x + (rowsOf (run s ops).2).count x
      = s.data.count x + (acceptedRows s ops).count x := by
  induction ops generalizing s with
  | nil => rfl
  | cons op ops ih =>
    have hap : Apart s := fun f hf => by
      rw [h.hf] at hf
      cases hf
    have h1 := step_conserve s op x hap
    -- without an allowance every result is a first firing
    rw [firstRowsOf, List.filter_eq_self.mpr fun e he =>
      decide_eq_true ((step_kind s op e he).resolve_right (h.hl ▸ Int.lt_irrefl 0))] at h1
    have h2 := ih (step s op).1 (step_l0 s op h)
    show _ + (rowsOf (_ ++ _)).count x = _ + List.count x (_ ++ _)
    rw [rowsOf_append, List.count_append, List.count_append]
    exact count_glue h1 h2

end Tumbling
