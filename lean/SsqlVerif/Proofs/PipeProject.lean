/-
`compileSimpleFieldInfo` on the field spec the front end produces for a well-formed SELECT item recovers
the item: the spec is not `*`, the output name is the item's, and an ordinary (non-literal) item is
neither a call nor a literal for the compiler and reads the value the spec's structural lookup finds.
-/
import SsqlVerif.Proofs.PipePath
set_option autoImplicit false

namespace Pipe
open PipeSpec

/-- the byte class of `isBqName`: its predicate, under a name -/
def bqChar (c : Char) : Bool := identChar c || c = ' '

/-- a quoted literal in the SELECT list.  The front end sends literals to `FieldExpressions`
(`PipeSpec.exprOf`); `projectDirectRow` writes those columns first and skips the item's simple field. -/
def isLit (it : Item) : Bool :=
  match it.src with
  | .lit _ => true
  | _ => false

/-- the part of `itemWF` about the source that the proofs use: `itemWF` without `subSel` (subscripts `≥ 0`)
and without its conditions on the alias -/
def srcWF : Src → Bool
  | .star => false
  | .path f r => compWF f && r.all compWF
  | .bqcol n => isBqName n
  | .lit s => s.all litChar

/-- the name an ordinary source is read under: its text without back quotes -/
def srcName : Src → Str
  | .bqcol n => n
  | s => srcText s

/-- text after the separator in the item's field spec -/
def specSuffix (it : Item) : Option Str :=
  match it.alias with
  | some a => some (aliasText it a)
  | none =>
    match it.src with
    | .lit s => some s
    | _ => none

theorem bqChar_ne (c d : Char) (hc : bqChar c = true) (hd : bqChar d = false) : c ≠ d :=
  fun e => Bool.false_ne_true (hd ▸ e ▸ hc)

theorem litChar_ne (c d : Char) (hc : litChar c = true) (hd : litChar d = false) : c ≠ d :=
  fun e => Bool.false_ne_true (hd ▸ e ▸ hc)

theorem identChar_bq (c : Char) (h : identChar c = true) : bqChar c = true := by simp [bqChar, h]
theorem identChar_lit (c : Char) (h : identChar c = true) : litChar c = true := by simp [litChar, h]

theorem isBqName_all (s : Str) (h : isBqName s = true) : s.all bqChar = true := by
  simp only [isBqName, Bool.and_eq_true] at h
  exact h.2

theorem renderPath_all (f : Comp) (r : List Comp) (hf : compWF f = true) (hr : r.all compWF = true) :
    (renderPath f r).all (fun c => compChar c || c = '.') = true := by
  have hc (c : Comp) (h : compWF c = true) : (renderComp c).all (fun c => compChar c || c = '.') = true :=
    all_imp (fun c h => Bool.or_eq_true_iff.mpr (Or.inl h)) (renderComp_all c h)
  rw [renderPath, List.all_append, hc f hf]
  induction r with
  | nil => rfl
  | cons c cs ih =>
    rw [List.all_cons, Bool.and_eq_true] at hr
    rw [renderRest, List.all_cons, List.all_append, hc c hr.1]
    exact ih hr.2

theorem renderPath_head (f : Comp) (r : List Comp) (hf : compWF f = true) (d : Char) (hd : identChar d = false) :
    (renderPath f r).head? ≠ some d := by
  simp only [compWF, Bool.and_eq_true] at hf
  have hall := isIdent_all _ hf.1
  rw [renderPath, renderComp]
  cases hn : f.name with
  | nil => exact absurd hn (isIdent_ne_nil _ hf.1)
  | cons c t =>
    rw [hn] at hall
    exact head?_ne_of_all (c :: t) d hall hd

theorem tokChar_not_quote (c : Char) (hc : tokChar c = true) : isQuoteChar c = false := by
  cases hq : isQuoteChar c with
  | false => rfl
  | true =>
    exfalso
    simp only [isQuoteChar, Bool.or_eq_true, decide_eq_true_eq] at hq
    rcases hq with (e | e) | e
    all_goals
      subst e
      revert hc
      decide

theorem scanTo_tok (s : Str) (hs : s.all tokChar = true) (t : Str) : scanTo none (s ++ t) = scanTo none t :=
  (scanTo_append _ _ _ _ (scanTo_plain s hs tokChar_not_quote (by decide))).2.2

theorem scanTo_wrapped (q : Char) (hq : isQuoteChar q = true) (s : Str) (hs : q ∉ s) :
    scanTo none (q :: (s ++ [q])) = some none := by
  have hc : q ≠ ':' := by
    rintro rfl
    cases hq
  rw [scanTo, isCut, decide_eq_false hc, quoteNext, hq]
  exact scanTo_quoted q s hs

theorem scanTo_cons (c : Char) (t : Str) (hq : isQuoteChar c = false) (hc : c ≠ ':') :
    scanTo none (c :: t) = scanTo none t := by
  rw [scanTo, isCut, decide_eq_false hc, quoteNext, hq]
  rfl

theorem scanTo_renderSub (s : Sub) (hs : subWF s = true) (t : Str) :
    scanTo none (renderSub s ++ t) = scanTo none t := by
  cases s with
  | idx i =>
    rw [renderSub_idx, scanTo_cons _ _ (by decide) (by decide), scanTo_tok _ (itoa_tok i),
      scanTo_cons _ _ (by decide) (by decide)]
  | key k =>
    have hk : k.all identChar = true := hs
    rw [renderSub_key, scanTo_cons _ _ (by decide) (by decide),
      (scanTo_append _ _ _ _ (scanTo_wrapped '\'' rfl k (all_not_mem k '\'' hk (by decide)))).2.2,
      scanTo_cons _ _ (by decide) (by decide)]

theorem scanTo_renderSubs (subs : List Sub) (hs : subs.all subWF = true) (t : Str) :
    scanTo none (renderSubs subs ++ t) = scanTo none t := by
  induction subs with
  | nil => rfl
  | cons s ss ih =>
    rw [List.all_cons, Bool.and_eq_true] at hs
    rw [renderSubs, List.append_assoc, scanTo_renderSub s hs.1, ih hs.2]

theorem scanTo_renderComp (c : Comp) (hc : compWF c = true) (t : Str) :
    scanTo none (renderComp c ++ t) = scanTo none t := by
  simp only [compWF, Bool.and_eq_true] at hc
  rw [renderComp, List.append_assoc, scanTo_tok _ (all_imp tokChar_of_ident (isIdent_all _ hc.1)),
    scanTo_renderSubs _ hc.2]

theorem scanTo_renderPath (f : Comp) (r : List Comp) (hf : compWF f = true) (hr : r.all compWF = true) :
    scanTo none (renderPath f r) = some none := by
  rw [renderPath, scanTo_renderComp f hf]
  induction r with
  | nil => rfl
  | cons c cs ih =>
    rw [List.all_cons, Bool.and_eq_true] at hr
    rw [renderRest, scanTo_cons _ _ (by decide) (by decide), scanTo_renderComp c hr.1]
    exact ih hr.2

theorem simpleSpec_shape (it : Item) :
    simpleSpec it = srcText it.src ++ (match specSuffix it with | some t => ':' :: t | none => []) := by
  unfold simpleSpec specSuffix
  cases it.alias with
  | some a => rfl
  | none => cases it.src <;> simp

theorem compSel_wf (c : Comp) (h : compSel c = true) : compWF c = true := by
  simp only [compSel, Bool.and_eq_true] at h
  exact h.1

theorem scanTo_srcText (s : Src) (hs : srcWF s = true) : scanTo none (srcText s) = some none := by
  cases s with
  | star => cases hs
  | path f r =>
    simp only [srcWF, Bool.and_eq_true] at hs
    exact scanTo_renderPath f r hs.1 hs.2
  | bqcol n => exact scanTo_wrapped '`' rfl n (all_not_mem n '`' (isBqName_all n hs) (by decide))
  | lit s => exact scanTo_wrapped '\'' rfl s (all_not_mem s '\'' hs (by decide))

theorem stripBackticks_wrapped (n : Str) : stripBackticks ('`' :: (n ++ ['`'])) = n := by
  have hw : wrappedIn '`' ('`' :: (n ++ ['`'])) = true := by
    simp [wrappedIn, getLast?_wrapped]
  rw [stripBackticks, if_pos hw, inner_quoted]

theorem wrappedIn_false (q : Char) (s : Str) (h : s.head? ≠ some q) : wrappedIn q s = false := by
  simp [wrappedIn, h]

theorem stripBackticks_id (s : Str) (h : s.head? ≠ some '`') : stripBackticks s = s := by
  rw [stripBackticks, wrappedIn_false _ _ h]
  rfl

theorem isLiteralName_false (s : Str) (h1 : s.head? ≠ some '\'') (h2 : s.head? ≠ some '"') :
    isLiteralName s = false := by
  rw [isLiteralName, wrappedIn_false _ _ h1, wrappedIn_false _ _ h2]
  rfl

theorem isCall_false (s : Str) (h : '(' ∉ s) : isCall s = false := by
  rw [isCall, List.contains_eq_mem, decide_eq_false h]
  rfl

theorem isNestedName_false (s : Str) (h1 : '.' ∉ s) (h2 : '[' ∉ s) : isNestedName s = false := by
  rw [isNestedName, List.contains_eq_mem, List.contains_eq_mem, decide_eq_false h1, decide_eq_false h2]
  rfl

theorem stripBackticks_srcText (s : Src) (hs : srcWF s = true) : stripBackticks (srcText s) = srcName s := by
  cases s with
  | star => cases hs
  | path f r =>
    simp only [srcWF, Bool.and_eq_true] at hs
    exact stripBackticks_id _ (renderPath_head f r hs.1 '`' (by decide))
  | bqcol n => exact stripBackticks_wrapped n
  | lit s => exact stripBackticks_id _ (by simp [srcText])

theorem bare_of_not_nested (f : Comp) (r : List Comp) (h : isNestedName (renderPath f r) = false) :
    r = [] ∧ f.subs = [] := by
  simp only [isNestedName, Bool.or_eq_false_iff, List.contains_eq_mem, decide_eq_false_iff_not] at h
  constructor
  · cases r with
    | nil => rfl
    | cons c cs => exact absurd (by simp [renderPath, renderRest]) h.1
  · cases hs : f.subs with
    | nil => rfl
    | cons s ss =>
      obtain ⟨t, ht⟩ := renderSubs_cons_lbracket s ss
      exact absurd (by simp [renderPath, renderComp, hs, ht]) h.2

theorem walkComps_bare (row : Row) (f : Comp) (hs : f.subs = []) :
    walkComps (.map row) [f] = lookupKey f.name row := by
  simp only [walkComps, compLookup, hs, walkSubs]
  cases lookupKey f.name row <;> rfl

theorem itemWF_src (it : Item) (hwf : itemWF it = true) : srcWF it.src = true := by
  simp only [itemWF, Bool.and_eq_true] at hwf
  have h := hwf.2
  revert h
  cases it.src with
  | star => exact id
  | path f r =>
    intro h
    simp only [Bool.and_eq_true] at h
    simp [srcWF, compSel_wf f h.1, all_imp compSel_wf h.2]
  | bqcol n => exact id
  | lit s =>
    intro h
    simp only [Bool.and_eq_true] at h
    exact h.1

theorem specBefore_simpleSpec (it : Item) (hwf : itemWF it = true) :
    specBefore none (simpleSpec it) = srcText it.src := by
  rw [simpleSpec_shape, (scanTo_append none none _ _ (scanTo_srcText _ (itemWF_src it hwf))).1]
  cases specSuffix it with
  | some t => rw [specBefore_cut, List.append_nil]
  | none => rw [specBefore_nil, List.append_nil]

theorem specAfter_simpleSpec (it : Item) (hwf : itemWF it = true) :
    specAfter none (simpleSpec it) = specSuffix it := by
  rw [simpleSpec_shape, (scanTo_append none none _ _ (scanTo_srcText _ (itemWF_src it hwf))).2.1]
  cases specSuffix it with
  | some t => exact specAfter_cut t
  | none => exact specAfter_nil none

theorem specFieldName_simpleSpec (it : Item) (hwf : itemWF it = true) :
    specFieldName (simpleSpec it) = srcName it.src := by
  rw [specFieldName, specBefore_simpleSpec it hwf, stripBackticks_srcText _ (itemWF_src it hwf)]

theorem specOutputName_simpleSpec (it : Item) (hwf : itemWF it = true) :
    specOutputName (simpleSpec it) = outName it := by
  have hsrc := itemWF_src it hwf
  rw [specOutputName, specAfter_simpleSpec it hwf, specFieldName_simpleSpec it hwf]
  simp only [itemWF, Bool.and_eq_true] at hwf
  have hal := hwf.1
  unfold specSuffix outName
  cases ha : it.alias with
  | some a =>
    simp only [aliasWF, ha] at hal
    simp only [Option.getD_some, aliasText]
    cases hb : it.aliasBq with
    | true => exact stripBackticks_wrapped a
    | false =>
      rw [hb] at hal
      exact stripBackticks_id a (head?_ne_of_all a '`' (isIdent_all a hal) (by decide))
  | none =>
    cases hs : it.src with
    | lit s =>
      rw [hs] at hsrc
      exact stripBackticks_id s (head?_ne_of_all s '`' hsrc (by decide))
    | _ => rfl

theorem simpleSpec_ne_star (it : Item) (hwf : itemWF it = true) : simpleSpec it ≠ ['*'] := by
  intro e
  have h : ['*'] = srcText it.src := by
    rw [← specBefore_simpleSpec it hwf, e]
    rfl
  have hsrc := itemWF_src it hwf
  revert h hsrc
  cases it.src with
  | star =>
    intro _ hsrc
    cases hsrc
  | path f r =>
    intro h hsrc
    simp only [srcWF, Bool.and_eq_true] at hsrc
    exact renderPath_head f r hsrc.1 '*' (by decide) (congrArg List.head? h.symm)
  | bqcol n =>
    intro h _
    exact absurd (List.cons.inj h).1 (by decide)
  | lit s =>
    intro h _
    exact absurd (List.cons.inj h).1 (by decide)

theorem compileField_selectAll (it : Item) (hwf : itemWF it = true) : (compileField (simpleSpec it)).selectAll = false := by
  rw [compileField, if_neg (simpleSpec_ne_star it hwf)]

theorem compileField_outputName (it : Item) (hwf : itemWF it = true) :
    (compileField (simpleSpec it)).outputName = outName it := by
  rw [compileField, if_neg (simpleSpec_ne_star it hwf)]
  exact specOutputName_simpleSpec it hwf

theorem compileField_plain (it : Item) (hwf : itemWF it = true) (hnl : isLit it = false) (row : Row) :
    (compileField (simpleSpec it)).isLiteral = false ∧
    (compileField (simpleSpec it)).isFunctionCall = false ∧
    plainValue (compileField (simpleSpec it)) row = .ok (itemValue row it.src) := by
  have hsrc := itemWF_src it hwf
  rw [compileField, if_neg (simpleSpec_ne_star it hwf)]
  simp only [specFieldName_simpleSpec it hwf, plainValue]
  rw [isLit] at hnl
  revert hnl hsrc
  cases it.src with
  | star =>
    intro _ hsrc
    cases hsrc
  | lit s =>
    intro hnl
    cases hnl
  | path f r =>
    intro _ hsrc
    simp only [srcWF, Bool.and_eq_true] at hsrc
    obtain ⟨hf, hr⟩ := hsrc
    have hcall := isCall_false _ (all_not_mem _ '(' (renderPath_all f r hf hr) (by decide))
    refine ⟨isLiteralName_false _ (renderPath_head f r hf '\'' (by decide)) (renderPath_head f r hf '"' (by decide)),
      hcall, ?_⟩
    simp only [srcName, srcText, hcall, Bool.not_false, Bool.true_and, itemValue, pathLookup]
    cases hn : isNestedName (renderPath f r) with
    | true => rw [if_pos rfl, getNestedField_render (.map row) f r hf hr]
    | false =>
      obtain ⟨rfl, hs0⟩ := bare_of_not_nested f r hn
      have hname : renderPath f [] = f.name := by
        rw [renderPath, renderComp, hs0]
        exact (List.append_nil _).trans (List.append_nil _)
      rw [if_neg Bool.false_ne_true, hname, walkComps_bare row f hs0]
  | bqcol n =>
    intro _ hsrc
    have hall := isBqName_all n hsrc
    have hcall := isCall_false n (all_not_mem n '(' hall (by decide))
    have hnest := isNestedName_false n (all_not_mem n '.' hall (by decide)) (all_not_mem n '[' hall (by decide))
    refine ⟨isLiteralName_false _ (head?_ne_of_all n '\'' hall (by decide)) (head?_ne_of_all n '"' hall (by decide)),
      hcall, ?_⟩
    show (if (!isCall n && isNestedName n) = true then _ else _) = _
    rw [hcall, hnest]
    rfl

end Pipe
