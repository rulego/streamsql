/-
C15, completeness over a history of rows followed by one final `Flush` (greedy mode), and: a classified continuation
that the automaton accepts and the rows satisfy extends an admitted run to an admitted accepting run.
-/
import SsqlVerif.Proofs.CepComplete
set_option autoImplicit false

namespace Cep
open Spec
section
variable {κ ρ : Type} [DecidableEq κ]

/-- `op` is a row, not a `Flush`.  Completeness is stated for histories of such ops followed by one final `Flush`: a
`Flush` reports the accepting live runs as they stand, so were rows to follow, the match reported for such a start would
not be the longest. -/
def isRow : Op κ ρ → Bool
  | .row _ _ => true
  | .flush => false

theorem stepAt_keeps_cov {c : Cfg ρ} (hl : c.lazy = false) (hw : 0 ≤ c.within) {H : List ρ} {p : Part ρ} (h : Cov c H p)
    (k : κ) {op : Op κ ρ} (hr : isRow op = true) (x : List ρ) :
    Cov c (H ++ histOf k [op]) (stepAt c k p op).1 ∧
    GChain c (H ++ histOf k [op] ++ x) p.nextStart (stepAt c k p op).2 (stepAt c k p op).1.nextStart := by
  cases op with
  | flush => cases hr
  | row k' r =>
    simp only [stepAt, histOf]
    split
    · exact stepPart_keeps_cov hl hw h r x
    · rw [List.append_nil]
      exact ⟨h, GChain.nil _⟩

theorem run_rows_gchain {c : Cfg ρ} (hl : c.lazy = false) (hw : 0 ≤ c.within) (k : κ) (x : List ρ)
    (ops : List (Op κ ρ)) (e : Engine κ ρ) (H : List ρ) (hrows : ∀ op ∈ ops, isRow op = true)
    (hn : (keysOf e).Nodup) (h : Cov c H (getPart e k)) :
    GChain c (H ++ histOf k ops ++ x) (getPart e k).nextStart (outsOf k (run c e ops).2)
      (getPart (run c e ops).1 k).nextStart ∧
    (keysOf (run c e ops).1).Nodup ∧ Cov c (H ++ histOf k ops) (getPart (run c e ops).1 k) := by
  induction ops generalizing e H with
  | nil =>
    rw [histOf, List.append_nil]
    exact ⟨GChain.nil _, hn, h⟩
  | cons op ops ih =>
    obtain ⟨hc, g⟩ := stepAt_keeps_cov hl hw h k (hrows op (List.mem_cons_self ..)) (histOf k ops ++ x)
    rw [← step_getPart_outsOf c hn] at hc g
    obtain ⟨g', hn', hc'⟩ := ih _ _ (fun o ho => hrows o (List.mem_cons_of_mem _ ho)) (nodup_step c hn op) hc
    rw [← List.append_assoc] at g
    rw [run_cons, outsOf_cons, ← List.singleton_append, histOf_append, ← List.append_assoc]
    exact ⟨g.append g', hn', hc'⟩

theorem histOf_rows_flush (k : κ) (ops : List (Op κ ρ)) : histOf k (ops ++ [Op.flush]) = histOf k ops := by
  rw [histOf_append]
  exact List.append_nil _

theorem run_then_flush_covers {c : Cfg ρ} (hl : c.lazy = false) (hw : 0 ≤ c.within) (k : κ)
    (ops : List (Op κ ρ)) (hrows : ∀ op ∈ ops, isRow op = true) :
    ∀ r, Reached c (histOf k ops) r → runAccepting c r = true →
      ∃ m ∈ outsOf k (run c ({} : Engine κ ρ) (ops ++ [Op.flush])).2,
        m.startSeq ≤ r.startSeq ∧ r.startSeq < skipToM c m.startSeq m.rows ∧
        (r.startSeq = m.startSeq → r.hist.length ≤ m.rows.length) := by
  intro r hr hacc
  obtain ⟨g, hn, hc⟩ := run_rows_gchain hl hw k (x := []) (H := []) ops ({} : Engine κ ρ) hrows List.nodup_nil (Cov.init c)
  rw [List.nil_append, List.append_nil] at g
  rw [List.nil_append] at hc
  obtain ⟨g2, hlt⟩ := flushPart_gchain hl hc
  rw [(run_append c ops [Op.flush] _).1, outsOf_append]
  show ∃ m ∈ outsOf k (run c _ ops).2 ++ outsOf k [(step c (run c _ ops).1 Op.flush).2], _
  rw [(Prod.mk.inj (step_getPart_outsOf c hn Op.flush k)).2]
  exact (g.append g2).covers r hr hacc (Nat.zero_le _) (hlt r hr hacc)

end

section
variable {ρ : Type}

theorem advance_of_path (c : Cfg ρ) (hwf : TblWF c.tbl) {cur : Run ρ} {row : ρ} {a : Sym} {w : List Sym} {i n : Nat}
    (hcl : SClosed c.tbl cur.states) (hi : i ∈ cur.states) (hp : PathN c.tbl n i (a :: w) acceptIdx)
    (hdef : c.define a cur.hist row = true) :
    ∃ o n', succRun c cur row (a, o) ∈ advance c cur row ∧ SClosed c.tbl (closure c.tbl o) ∧
      o ∈ closure c.tbl o ∧ PathN c.tbl n' o w acceptIdx := by
  obtain ⟨j, o, n1, n2, p1, hnode, p2⟩ := path_cons_split hp a w rfl
  obtain ⟨hoin, hocl⟩ := closure_closed c.tbl hwf o (hwf j _ hnode o (List.mem_singleton.2 rfl))
  exact ⟨o, n2, mem_advance.2 ⟨(a, o), mem_matchOuts.2 ⟨j, hcl.path p1 hi, hnode⟩, hdef, rfl⟩, hocl, hoin, p2⟩

/-- `hlen` allows `maxRunRows + 1` rows: `live` tests the length before a row is consumed -/
theorem extend_reached (c : Cfg ρ) (hwf : TblWF c.tbl) (h0 : isAcceptAt c.tbl acceptIdx = true) (H : List ρ)
    (rest : List (ρ × Sym)) (cur : Run ρ) (i n : Nat) (hcl : SClosed c.tbl cur.states) (hi : i ∈ cur.states)
    (hp : PathN c.tbl n i (rest.map (·.2)) acceptIdx) (hr : Reached c H cur)
    (hrows : ∀ (j : Nat) (x : ρ × Sym), rest[j]? = some x → H[cur.startSeq - 1 + cur.hist.length + j]? = some x.1)
    (hdef : defOK c.define cur.hist rest = true) (hwin : ∀ x ∈ rest, c.ts x.1 - cur.startTs ≤ c.within)
    (hlen : cur.hist.length + rest.length ≤ c.maxRunRows + 1) :
    ∃ r, Reached c H r ∧ r.startSeq = cur.startSeq ∧ r.hist = cur.hist ++ rest ∧ runAccepting c r = true := by
  induction rest generalizing cur i n with
  | nil => exact ⟨cur, hr, rfl, (List.append_nil _).symm, List.any_eq_true.2 ⟨acceptIdx, hcl.path hp hi, h0⟩⟩
  | cons x rest ih =>
    obtain ⟨row, a⟩ := x
    rw [defOK, Bool.and_eq_true] at hdef
    rw [List.length_cons] at hlen
    obtain ⟨o, n', hadv, hocl, hoin, p2⟩ := advance_of_path c hwf hcl hi hp hdef.1
    have hlive : live c (c.ts row) cur = true :=
      live_iff.2 ⟨hwin (row, a) (List.mem_cons_self ..),
        Nat.le_of_add_le_add_right (Nat.le_trans (Nat.add_le_add_left (Nat.le_add_left 1 _) _) hlen)⟩
    obtain ⟨h1, h3⟩ := advance_length hadv
    have hlen' : (succRun c cur row (a, o)).hist.length + rest.length ≤ c.maxRunRows + 1 := by
      rw [h3, Nat.add_assoc, Nat.add_comm 1]
      exact hlen
    obtain ⟨r, hr', hrs, hrh, hra⟩ := ih (succRun c cur row (a, o)) o n' hocl hoin p2
      (.next hr (hrows 0 (row, a) rfl) hlive hadv)
      (fun j x hx => by
        rw [h1, h3, Nat.add_assoc, Nat.add_assoc, Nat.add_comm 1 j, ← Nat.add_assoc]
        exact hrows (j + 1) x hx)
      hdef.2 (fun x hx => hwin x (List.mem_cons_of_mem _ hx)) hlen'
    exact ⟨r, hr', hrs, hrh.trans (List.append_assoc ..), hra⟩

end
end Cep
