/-
C06 — the hand-written evaluator agrees with the SQL reference on the sort-correct fragment: one lemma
per operation for operands equal to `valueRes` of their SQL values, and the induction over `shapeOK`.
-/
import SsqlVerif.Model.ExprShape
set_option autoImplicit false

namespace Ex
open NumOps

/-- the four facts about `==` on the float images of FALSE and TRUE (Go: `0.0`, `1.0`) -/
class Num01 (ν : Type) [NumOps ν] : Prop where
  eq11 : NumOps.eq (ofNat 1 : ν) (ofNat 1) = true
  eq00 : NumOps.eq (ofNat 0 : ν) (ofNat 0) = true
  eq10 : NumOps.eq (ofNat 1 : ν) (ofNat 0) = false
  eq01 : NumOps.eq (ofNat 0 : ν) (ofNat 1) = false

section
variable {ν : Type} [NumOps ν]

def Value.isTrue : Value ν → Bool
  | .bool true => true
  | _ => false

/-- a truth value: TRUE, FALSE or UNKNOWN -/
def isTruth : Value ν → Bool
  | .null => true
  | .bool _ => true
  | _ => false

/-- how a result of the evaluator relates to the SQL value: the very value (NULL flagged as NULL),
or — for an UNKNOWN condition — FALSE -/
def agrees (v : Value ν) (r : Res ν) : Prop :=
  r = valueRes v ∨ (v = .null ∧ r = .val (.bool false) false)

instance [DecidableEq ν] (v : Value ν) (r : Res ν) : Decidable (agrees v r) := by
  unfold agrees
  exact inferInstance

-- the instance `[NumOps ν]` is not used by this statement
set_option linter.unusedSectionVars false in
theorem agrees_exact {v : Value ν} {r : Res ν} (h : r = valueRes v) : agrees v r := Or.inl h

omit [NumOps ν] in
@[simp] theorem Value.isTrue_bool (b : Bool) : (Value.bool b : Value ν).isTrue = b := by
  cases b <;> rfl

omit [NumOps ν] in
theorem Value.eq_of_isTrue {v : Value ν} (h : v.isTrue = true) : v = .bool true := by
  unfold Value.isTrue at h
  split at h
  · rfl
  · cases h

omit [NumOps ν] in
theorem valueRes_ne_err (v : Value ν) : valueRes v ≠ .err := nofun

variable {env : Env ν} {row : Row ν}

theorem ev_v_eq_w (e : Expr) : ev env row e .v = ev env row e .w := by
  induction e with
  | paren e ih => exact ih
  | _ => rfl

theorem eq_ofBool [Num01 ν] : ∀ a b : Bool,
    NumOps.eq (if a then ofNat 1 else ofNat 0 : ν) (if b then ofNat 1 else ofNat 0) = decide (a = b)
  | true, true => Num01.eq11
  | false, false => Num01.eq00
  | true, false => Num01.eq10
  | false, true => Num01.eq01

/-- as `and_sql`, `or_sql`, `not_sql`: `v` is a truth value, the two-valued step answers `v.isTrue`, the
three-valued one (mode `.t`) `v` -/
theorem cmp_sql [Num01 ν] {op : COp} {x y v : Value ν} {l r : Res ν}
    (h : sqlCmp op x y = .ok v) (hl : l = valueRes x) (hr : r = valueRes y) :
    isTruth v = true ∧ cmpStep env op l r = .val (.bool v.isTrue) false ∧ cmpT env op l r = valueRes v := by
  subst hl hr
  revert h
  fun_cases sqlCmp op x y
  all_goals intro h
  all_goals cases h
  case case1 =>  -- NULL, _
    exact ⟨rfl, rfl, rfl⟩
  case case2 hx =>  -- _, NULL
    cases x <;> first | exact absurd rfl hx | exact ⟨rfl, rfl, rfl⟩
  case case3 | case4 =>  -- numbers, strings
    rw [Value.isTrue_bool]
    exact ⟨rfl, rfl, rfl⟩
  -- booleans under `=`, `!=`: compared through their float images
  case case5 p q | case6 p q =>
    rw [Value.isTrue_bool, ← eq_ofBool (ν := ν) p q]
    exact ⟨rfl, rfl, rfl⟩

theorem caseEq_sql [Num01 ν] {x y v : Value ν} (h : sqlCmp .eq x y = .ok v) :
    caseEq env x x.isNull y y.isNull = v.isTrue := by
  unfold sqlCmp at h
  split at h
  all_goals cases h
  · -- NULL on the left
    rfl
  · -- NULL on the right
    cases x <;> first | contradiction | rfl
  · -- two numbers
    rw [Value.isTrue_bool]
    rfl
  · -- two strings
    rw [Value.isTrue_bool]
    rfl
  · -- two booleans
    next p q =>
    rw [Value.isTrue_bool, ← eq_ofBool (ν := ν) p q]
    rfl

theorem sqlArith_num {op : AOp} {x y : ν} {v : Value ν} (h : sqlArith op (.num x) (.num y) = .ok v) :
    v = .num (aop op x y) ∧ ¬(op = .div && isZero y) = true ∧ ¬isNaN (aop op x y) = true := by
  have h : (if (op = .div && isZero y) = true then SRes.bad .divZero
      else if isNaN (aop op x y) = true then SRes.bad .nan else SRes.ok (.num (aop op x y))) = .ok v := h
  split at h
  · cases h
  · split at h
    · cases h
    · cases h
      exact ⟨rfl, ‹_›, ‹_›⟩

theorem arithStep_sql {op : AOp} {x y v : Value ν} {a b : Res ν}
    (h : sqlArith op x y = .ok v) (ha : a = valueRes x) (hb : b = valueRes y) :
    arithStep env op a b = valueRes v := by
  subst ha hb
  revert h
  fun_cases sqlArith op x y
  all_goals intro h
  all_goals cases h
  case case3 h0 hnan =>  -- two numbers
    simp only [arithStep, valueRes, Value.isNull, toFloat, Bool.or_self, Bool.false_eq_true, if_false, h0, hnan]
  all_goals rfl  -- a NULL operand

omit [NumOps ν] in
theorem and_sql {x y v : Value ν} {lb rb lt rt : Res ν} (h : sqlAnd x y = .ok v)
    (hx : isTruth x = true → lb = .val (.bool x.isTrue) false ∧ lt = valueRes x)
    (hy : isTruth y = true → rb = .val (.bool y.isTrue) false ∧ rt = valueRes y) :
    isTruth v = true ∧ andStep lb rb = .val (.bool v.isTrue) false ∧ andT lt rt = valueRes v := by
  revert h hx hy
  fun_cases sqlAnd x y
  all_goals intro h hx hy
  all_goals cases h
  all_goals obtain ⟨rfl, rfl⟩ := hx rfl
  all_goals obtain ⟨rfl, rfl⟩ := hy rfl
  -- arm `.bool true, .bool b`: `andT` inspects `b`
  case case3 b => cases b <;> exact ⟨rfl, rfl, rfl⟩
  all_goals exact ⟨rfl, rfl, rfl⟩

omit [NumOps ν] in
theorem or_sql {x y v : Value ν} {lb rb lt rt : Res ν} (h : sqlOr x y = .ok v)
    (hx : isTruth x = true → lb = .val (.bool x.isTrue) false ∧ lt = valueRes x)
    (hy : isTruth y = true → rb = .val (.bool y.isTrue) false ∧ rt = valueRes y) :
    isTruth v = true ∧ orStep lb rb = .val (.bool v.isTrue) false ∧ orT lt rt = valueRes v := by
  revert h hx hy
  fun_cases sqlOr x y
  all_goals intro h hx hy
  all_goals cases h
  all_goals obtain ⟨rfl, rfl⟩ := hx rfl
  all_goals obtain ⟨rfl, rfl⟩ := hy rfl
  -- arm `.bool false, .bool b`: `orT` inspects `b`
  case case3 b => cases b <;> exact ⟨rfl, rfl, rfl⟩
  all_goals exact ⟨rfl, rfl, rfl⟩

omit [NumOps ν] in
theorem not_sql {x v : Value ν} {t : Res ν} (h : sqlNot x = .ok v) (hx : isTruth x = true → t = valueRes x) :
    isTruth v = true ∧ notB t = .val (.bool v.isTrue) false ∧ notT t = valueRes v := by
  unfold sqlNot at h
  split at h
  all_goals cases h
  all_goals cases hx rfl
  · rw [Value.isTrue_bool]
    exact ⟨rfl, rfl, rfl⟩
  · exact ⟨rfl, rfl, rfl⟩

omit [NumOps ν] in
theorem bind2_ok {a b : SRes ν} {f : Value ν → Value ν → SRes ν} {v : Value ν}
    (h : bind2 a b f = .ok v) : ∃ x y, a = .ok x ∧ b = .ok y ∧ f x y = .ok v := by
  cases a with
  | bad w => cases b <;> cases h
  | ok x => cases b with
    | bad w => cases h
    | ok y => exact ⟨x, y, rfl, rfl, h⟩

omit [NumOps ν] in
theorem bind3_ok {a b c : SRes ν} {f : Value ν → Value ν → Value ν → SRes ν} {v : Value ν}
    (h : (match a, b, c with
      | .ok x, .ok y, .ok z => f x y z
      | .bad w, _, _ => .bad w
      | _, .bad w, _ => .bad w
      | _, _, .bad w => .bad w) = .ok v) :
    ∃ x y z, a = .ok x ∧ b = .ok y ∧ c = .ok z ∧ f x y z = .ok v := by
  cases a with
  | bad w => cases h
  | ok x => cases b with
    | bad w => cases h
    | ok y => cases c with
      | bad w => cases h
      | ok z => exact ⟨x, y, z, rfl, rfl, rfl, h⟩

omit [NumOps ν] in
theorem bind_ok {a : SRes ν} {f : Value ν → SRes ν} {v : Value ν}
    (h : (match a with | .ok x => f x | .bad w => .bad w) = .ok v) : ∃ x, a = .ok x ∧ f x = .ok v := by
  cases a with
  | ok x => exact ⟨x, rfl, h⟩
  | bad w => cases h

omit [NumOps ν] in
theorem sqlCall_ok {f : Str} {args : List (Value ν)} {v : Value ν}
    (h : sqlCall env f args = .ok v) : env.fn f args = some v := by
  unfold sqlCall at h
  split at h <;> cases h
  assumption

theorem ev_caseV {sc : Expr} (ch : Expr) {sv : Value ν} {sn : Bool}
    (h : ev env row sc .w = .val sv sn) : ev env row (.caseV sc ch) .w = ev env row ch (.chV sv sn) := by
  dsimp only [ev]
  rw [h]

theorem ev_whenS {c : Expr} (r rest : Expr) {b n : Bool}
    (h : ev env row c .b = .val (.bool b) n) :
    ev env row (.whenL c r rest) .chS = if b then ev env row r .w else ev env row rest .chS := by
  dsimp only [ev]
  rw [h]
  cases b <;> rfl

theorem ev_whenV {c : Expr} (r rest : Expr) (sv : Value ν) (sn : Bool)
    {wv : Value ν} {wn : Bool} (h : ev env row c .w = .val wv wn) :
    ev env row (.whenL c r rest) (.chV sv sn) =
      if caseEq env sv sn wv wn then ev env row r .w else ev env row rest (.chV sv sn) := by
  dsimp only [ev]
  rw [h]

theorem sqlWhenS_ok {c r rest : Expr} {v : Value ν}
    (h : sqlEval env row (.whenL c r rest) .chS = .ok v) :
    ∃ cv, sqlEval env row c .e = .ok cv ∧ isTruth cv = true ∧
      (if cv.isTrue then sqlEval env row r .e else sqlEval env row rest .chS) = .ok v := by
  dsimp only [sqlEval] at h
  split at h
  · exact ⟨.bool true, ‹_›, rfl, h⟩
  · exact ⟨.bool false, ‹_›, rfl, h⟩
  · exact ⟨.null, ‹_›, rfl, h⟩
  · cases h
  · cases h

theorem sqlWhenV_ok {c r rest : Expr} {sv v : Value ν}
    (h : sqlEval env row (.whenL c r rest) (.chV sv) = .ok v) :
    ∃ wv cv, sqlEval env row c .e = .ok wv ∧ sqlCmp .eq sv wv = .ok cv ∧
      (if cv.isTrue then sqlEval env row r .e else sqlEval env row rest (.chV sv)) = .ok v := by
  obtain ⟨wv, hw, h⟩ := bind_ok h
  split at h
  · exact ⟨wv, .bool true, hw, ‹_›, h⟩
  · next cv hne hq => exact ⟨wv, cv, hw, hq, (if_neg fun ht => hne (Value.eq_of_isTrue ht)).trans h⟩
  · cases h

omit [NumOps ν] in
theorem callStep_sql {f : Str} {xs : List (Value ν)} {v : Value ν} {rs : List (Res ν)}
    (h : sqlCall env f xs = .ok v) (hr : rs = xs.map valueRes) : callStep env f rs = valueRes v := by
  subst hr
  simp [callStep, valueRes, Function.comp_def, sqlCall_ok h]

/-- The invariant of `good_all`.  A CASE whose arms are conditions is `boolTyped` but not `boolShaped`: only
`ag` says anything of it. -/
structure Good (env : Env ν) (row : Row ν) (e : Expr) (m : Mode ν) (v : Value ν) : Prop where
  ag : agrees v (ev env row e m)
  exact : boolTyped e = false → ev env row e m = valueRes v
  cond : boolShaped e = true → isTruth v = true →
    ev env row e .b = .val (.bool v.isTrue) false ∧ ev env row e .t = valueRes v

omit [NumOps ν] in
theorem colRes_eq (row : Row ν) (c : Str) : colRes row c = valueRes ((lookup c row).getD .null) := by
  unfold colRes
  cases lookup c row <;> rfl

theorem agrees_truth {v : Value ν} (h : isTruth v = true) : agrees v (.val (.bool v.isTrue) false) := by
  cases v with
  | null => exact .inr ⟨rfl, rfl⟩
  | bool b =>
    rw [Value.isTrue_bool]
    exact agrees_exact rfl
  | _ => cases h

theorem boolOfRes_valueRes {v : Value ν} (h : isTruth v = true) :
    boolOfRes env (valueRes v) = .val (.bool v.isTrue) false := by
  cases v with
  | null => rfl
  | bool b =>
    rw [Value.isTrue_bool]
    rfl
  | _ => cases h

theorem truthOfRes_valueRes {v : Value ν} (h : isTruth v = true) :
    truthOfRes env (valueRes v) = valueRes v := by
  cases v with
  | null | bool b => rfl
  | _ => cases h

theorem Good.of_exact {e : Expr} {v : Value ν}
    (h : ev env row e .w = valueRes v)
    (hc : boolShaped e = true →
      ev env row e .b = boolOfRes env (ev env row e .w) ∧ ev env row e .t = truthOfRes env (ev env row e .w)) :
    Good env row e .w v :=
  ⟨agrees_exact h, fun _ => h, fun hs ht => by
    rw [(hc hs).1, (hc hs).2, h, boolOfRes_valueRes ht, truthOfRes_valueRes ht]
    exact ⟨rfl, rfl⟩⟩

theorem Good.of_cond {e : Expr} {v : Value ν}
    (hbt : boolTyped e = true) (hw : ev env row e .w = ev env row e .b)
    (h : isTruth v = true ∧ ev env row e .b = .val (.bool v.isTrue) false ∧ ev env row e .t = valueRes v) :
    Good env row e .w v := by
  obtain ⟨ht, hb, htm⟩ := h
  refine ⟨?_, fun h => absurd hbt (by simp [h]), fun _ _ => ⟨hb, htm⟩⟩
  rw [hw, hb]
  exact agrees_truth ht

theorem Good.of_eq {e e' : Expr} {m m' : Mode ν} {v : Value ν}
    (g : Good env row e' m' v) (hw : ev env row e m = ev env row e' m')
    (hbt : boolTyped e = false → boolTyped e' = false) (hbs : boolShaped e = false) : Good env row e m v :=
  ⟨hw ▸ g.ag, fun h => hw.trans (g.exact (hbt h)), fun h => absurd h (by simp [hbs])⟩

theorem good_all [Num01 ν] (e : Expr) (k : Kind) : shapeOK e k = true →
    match k with
    | .e => ∀ v, sqlEval env row e .e = .ok v → Good env row e .w v
    | .chS => ∀ v, sqlEval env row e .chS = .ok v → Good env row e .chS v
    | .chV => ∀ sv v, sqlEval env row e (.chV sv) = .ok v → Good env row e (.chV sv sv.isNull) v := by
  -- cases numbered as the arms of `shapeOK`
  fun_induction shapeOK e k with
  | case1 l | case2 s =>  -- .lit, .str
    intro _ v h
    cases h
    exact .of_exact rfl nofun
  | case3 c =>  -- .col
    intro _ v h
    cases h
    exact .of_exact (colRes_eq row c) fun _ => ⟨rfl, rfl⟩
  | case4 e ih =>  -- .paren
    intro hs v h
    have g := ih hs v h
    exact ⟨g.ag, g.exact, g.cond⟩
  | case5 e ih =>  -- .neg
    intro hs v h
    simp only [Bool.and_eq_true, Bool.not_eq_true'] at hs
    obtain ⟨x, y, hx, hy, hf⟩ := bind2_ok h
    cases hx
    exact .of_exact (arithStep_sql hf rfl ((ih hs.1 y hy).exact hs.2)) nofun
  | case6 op l r ihl ihr =>  -- .arith
    intro hs v h
    simp only [Bool.and_eq_true, Bool.not_eq_true'] at hs
    obtain ⟨x, y, hx, hy, hf⟩ := bind2_ok h
    exact .of_exact (arithStep_sql hf ((ihl hs.1.1.1 x hx).exact hs.1.2)
      ((ihr hs.1.1.2 y hy).exact hs.2)) nofun
  | case7 op l r ihl ihr =>  -- .cmp
    intro hs v h
    simp only [Bool.and_eq_true, Bool.not_eq_true'] at hs
    obtain ⟨x, y, hx, hy, hf⟩ := bind2_ok h
    exact .of_cond rfl rfl (cmp_sql hf
      ((ev_v_eq_w l).trans ((ihl hs.1.1.1 x hx).exact hs.1.2))
      ((ev_v_eq_w r).trans ((ihr hs.1.1.2 y hy).exact hs.2)))
  | case8 l r ihl ihr =>  -- .and
    intro hs v h
    simp only [Bool.and_eq_true] at hs
    obtain ⟨x, y, hx, hy, hf⟩ := bind2_ok h
    exact .of_cond rfl rfl (and_sql hf ((ihl hs.1.1.1 x hx).cond hs.1.2) ((ihr hs.1.1.2 y hy).cond hs.2))
  | case9 l r ihl ihr =>  -- .or
    intro hs v h
    simp only [Bool.and_eq_true] at hs
    obtain ⟨x, y, hx, hy, hf⟩ := bind2_ok h
    exact .of_cond rfl rfl (or_sql hf ((ihl hs.1.1.1 x hx).cond hs.1.2) ((ihr hs.1.1.2 y hy).cond hs.2))
  | case10 e ih =>  -- .not
    intro hs v h
    simp only [Bool.and_eq_true] at hs
    obtain ⟨x, hx, hf⟩ := bind_ok h
    exact .of_cond rfl rfl (not_sql hf fun tx => ((ih hs.1 x hx).cond hs.2 tx).2)
  | case11 e ih | case17 e ih =>  -- .caseS; .elseL, .chS
    intro hs v h
    exact (ih hs v h).of_eq rfl id rfl
  | case12 sc ch ihs ihc =>  -- .caseV
    intro hs v h
    simp only [Bool.and_eq_true, Bool.not_eq_true'] at hs
    obtain ⟨sv, hsc, h⟩ := bind_ok h
    exact (ihc hs.2 sv v h).of_eq (ev_caseV ch ((ihs hs.1.1 sv hsc).exact hs.1.2)) id rfl
  | case13 f a iha =>  -- .call1
    intro hs v h
    simp only [Bool.and_eq_true, Bool.not_eq_true'] at hs
    obtain ⟨x, hx, hf⟩ := bind_ok h
    have ga := (ev_v_eq_w a).trans ((iha hs.1 x hx).exact hs.2)
    refine .of_exact (callStep_sql hf ?_) fun _ => ⟨rfl, rfl⟩
    rw [ga]
    rfl
  | case14 f a b iha ihb =>  -- .call2
    intro hs v h
    simp only [Bool.and_eq_true, Bool.not_eq_true'] at hs
    obtain ⟨x, y, hx, hy, hf⟩ := bind2_ok h
    have ga := (ev_v_eq_w a).trans ((iha hs.1.1.1 x hx).exact hs.1.2)
    have gb := (ev_v_eq_w b).trans ((ihb hs.1.1.2 y hy).exact hs.2)
    refine .of_exact (callStep_sql hf ?_) fun _ => ⟨rfl, rfl⟩
    rw [ga, gb]
    rfl
  | case15 f a b c iha ihb ihc =>  -- .call3
    intro hs v h
    simp only [Bool.and_eq_true, Bool.not_eq_true'] at hs
    obtain ⟨x, y, z, hx, hy, hz, hf⟩ := bind3_ok h
    have ga := (ev_v_eq_w a).trans ((iha hs.1.1.1.1.1 x hx).exact hs.1.1.2)
    have gb := (ev_v_eq_w b).trans ((ihb hs.1.1.1.1.2 y hy).exact hs.1.2)
    have gc := (ev_v_eq_w c).trans ((ihc hs.1.1.1.2 z hz).exact hs.2)
    refine .of_exact (callStep_sql hf ?_) fun _ => ⟨rfl, rfl⟩
    rw [ga, gb, gc]
    rfl
  | case16 c r rest ihc ihr ihrest =>  -- .whenL, .chS
    intro hs v h
    simp only [Bool.and_eq_true] at hs
    obtain ⟨cv, hc, ht, h⟩ := sqlWhenS_ok h
    have hw := ev_whenS r rest ((ihc hs.1.1.1 cv hc).cond hs.1.1.2 ht).1
    cases hcv : cv.isTrue <;> rw [hcv] at hw h
    · exact (ihrest hs.2 v h).of_eq hw (fun hbt => (Bool.or_eq_false_iff.1 hbt).2) rfl
    · exact (ihr hs.1.2 v h).of_eq hw (fun hbt => (Bool.or_eq_false_iff.1 hbt).1) rfl
  | case19 c r rest ihc ihr ihrest =>  -- .whenL, .chV
    intro hs sv v h
    simp only [Bool.and_eq_true, Bool.not_eq_true'] at hs
    obtain ⟨wv, cv, hc, hq, h⟩ := sqlWhenV_ok h
    have hw := ev_whenV r rest sv sv.isNull ((ihc hs.1.1.1 wv hc).exact hs.1.1.2)
    rw [caseEq_sql hq] at hw
    cases hcv : cv.isTrue <;> rw [hcv] at hw h
    · exact (ihrest hs.2 sv v h).of_eq hw (fun hbt => (Bool.or_eq_false_iff.1 hbt).2) rfl
    · exact (ihr hs.1.2 v h).of_eq hw (fun hbt => (Bool.or_eq_false_iff.1 hbt).1) rfl
  | case20 e ih =>  -- .elseL, .chV
    intro hs sv v h
    exact (ih hs v h).of_eq rfl id rfl
  | case18 =>  -- .endL, .chS
    intro _ v h
    cases h
    exact ⟨agrees_exact rfl, fun _ => rfl, nofun⟩
  | case21 =>  -- .endL, .chV
    intro _ sv v h
    cases h
    exact ⟨agrees_exact rfl, fun _ => rfl, nofun⟩
  | case22 => nofun  -- other pairs

theorem good_expr [Num01 ν] {e : Expr} {v : Value ν}
    (hs : shapeOK e .e = true) (h : sqlEval env row e .e = .ok v) : Good env row e .w v :=
  good_all e .e hs v h

theorem hand_obs [Num01 ν] [DecidableEq ν] {e : Expr} {v : Value ν}
    (hs : shapeOK e .e = true) (h : sqlEval env row e .e = .ok v) :
    ∃ hv, resOpt (handEval env row e) = some hv ∧ sameObs (obsV v) (obsV hv) = true := by
  rcases (good_expr hs h).ag with hh | ⟨rfl, hh⟩
  · refine ⟨v, ?_, by simp [sameObs]⟩
    rw [handEval, hh]
    cases v <;> rfl
  · refine ⟨.bool false, ?_, rfl⟩
    rw [handEval, hh]
    rfl

omit [NumOps ν] in
theorem engineSelect_cases (r : Route) (hv : Value ν) (bridge : Option (Value ν)) :
    engineSelect r (some hv) bridge = hv ∨ bridge = some (engineSelect r (some hv) bridge) := by
  cases r
  all_goals cases bridge
  all_goals first | exact .inl rfl | exact .inr rfl

end
end Ex
