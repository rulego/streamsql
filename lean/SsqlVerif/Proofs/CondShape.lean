/-
C12, text level: the hand-written recogniser `matchCmp` accepts exactly the texts
`ws field ws OP ws literal ws`. Completeness rests on one fact per token: it ends where the next
byte is outside its class (`HeadFails`).
-/
import SsqlVerif.Model.CondShape
import SsqlVerif.Proofs.Cond
set_option autoImplicit false
namespace Cond

theorem isDigits_iff {s : Str} : isDigits s = true ↔ s ≠ [] ∧ s.all isDigit = true := by
  simp [isDigits]

theorem text_num (neg : Bool) (ip : Str) (fp : Option Str) :
    (RawLit.num neg ip fp).text = (if neg then ['-'] else []) ++ (ip ++ fp.elim [] ('.' :: ·)) := by
  cases fp <;> simp [RawLit.text]

theorem wf_num {neg : Bool} {ip : Str} {fp : Option Str} :
    (RawLit.num neg ip fp).wf = true ↔ isDigits ip = true ∧ ∀ f, fp = some f → isDigits f = true := by
  cases fp <;> simp [RawLit.wf]

theorem takeOp_sound {s : Str} {op : OpTok} {r : Str} (h : takeOp s = some (op, r)) : s = op.text ++ r := by
  revert h
  fun_cases takeOp s
  all_goals intro h
  all_goals cases h
  all_goals rfl

theorem matchFrac_sound {neg : Bool} {ip t : Str} {l : RawLit} (h : matchFrac neg ip t = some l) :
    ∃ fp w, l = .num neg ip fp ∧ (∀ f, fp = some f → isDigits f = true) ∧ allWs w = true ∧
      t = fp.elim [] ('.' :: ·) ++ w := by
  revert h
  fun_cases matchFrac neg ip t
  all_goals intro h
  all_goals cases h
  case case2 r hne hws =>  -- `.` and digits
    refine ⟨some (r.takeWhile isDigit), r.dropWhile isDigit, rfl, ?_, hws,
      congrArg ('.' :: ·) List.takeWhile_append_dropWhile.symm⟩
    rintro f ⟨⟩
    exact isDigits_iff.2 ⟨mt List.isEmpty_iff.2 hne, List.all_takeWhile⟩
  case case4 hws =>  -- no fraction
    exact ⟨none, t, rfl, fun _ hf => (nomatch hf), hws, rfl⟩

theorem matchDigits_sound {neg : Bool} {t : Str} {l : RawLit} (h : matchDigits neg t = some l) :
    ∃ w, allWs w = true ∧ (if neg then ['-'] else []) ++ t = l.text ++ w ∧ l.wf = true := by
  simp only [matchDigits, Option.ite_none_left_eq_some] at h
  obtain ⟨fp, w, rfl, hfp, hw, ht⟩ := matchFrac_sound h.2
  refine ⟨w, hw, ?_, wf_num.2 ⟨isDigits_iff.2 ⟨mt List.isEmpty_iff.2 h.1, List.all_takeWhile⟩, hfp⟩⟩
  rw [text_num, List.append_assoc, List.append_assoc, ← ht, List.takeWhile_append_dropWhile]

theorem matchQuoted_sound {t : Str} {l : RawLit} (h : matchQuoted t = some l) :
    ∃ w, allWs w = true ∧ '\'' :: t = l.text ++ w ∧ l.wf = true := by
  revert h
  fun_cases matchQuoted t
  all_goals intro h
  all_goals cases h
  case case1 r hd hws =>  -- closing quote found
    refine ⟨r, hws, ?_, List.all_takeWhile⟩
    rw [RawLit.text, List.cons_append, List.cons_append, List.append_assoc, List.singleton_append, ← hd,
      List.takeWhile_append_dropWhile]

theorem matchLit_sound {t : Str} {l : RawLit} (h : matchLit t = some l) :
    ∃ w, allWs w = true ∧ t = l.text ++ w ∧ l.wf = true := by
  revert h
  fun_cases matchLit t
  all_goals intro h
  · exact matchQuoted_sound h  -- opening quote
  · exact matchDigits_sound h  -- minus sign
  · exact matchDigits_sound h  -- anything else

theorem matchIdent_sound {t : Str} {x : Str × Str} (h : matchIdent t = some x) :
    t = x.1 ++ x.2 ∧ isIdent x.1 = true := by
  cases t with
  | nil => cases h
  | cons c r =>
    simp only [matchIdent, Option.ite_none_right_eq_some, Option.some.injEq] at h
    obtain ⟨hc, rfl⟩ := h
    exact ⟨congrArg (c :: ·) List.takeWhile_append_dropWhile.symm,
      Bool.and_eq_true_iff.2 ⟨hc, List.all_takeWhile⟩⟩

theorem matchCmp_sound {t : Str} {r : RawCmp} (h : matchCmp t = some r) :
    ∃ w1 w2 w3 w4, allWs w1 = true ∧ allWs w2 = true ∧ allWs w3 = true ∧ allWs w4 = true ∧
      t = r.render w1 w2 w3 w4 ∧ r.wf = true := by
  obtain ⟨x, hi, h⟩ := Option.bind_eq_some_iff.1 h
  obtain ⟨⟨op, r2⟩, ho, h⟩ := Option.bind_eq_some_iff.1 h
  obtain ⟨l, hl, rfl⟩ := Option.map_eq_some_iff.1 h
  obtain ⟨hsplit, hid⟩ := matchIdent_sound hi
  obtain ⟨w4, hw4, hlt, hwf⟩ := matchLit_sound hl
  have cut (s : Str) : s = s.takeWhile isWs ++ dropWs s := List.takeWhile_append_dropWhile.symm
  refine ⟨t.takeWhile isWs, x.2.takeWhile isWs, r2.takeWhile isWs, w4,
    List.all_takeWhile, List.all_takeWhile, List.all_takeWhile, hw4, ?_, Bool.and_eq_true_iff.2 ⟨hid, hwf⟩⟩
  have e3 : r2 = r2.takeWhile isWs ++ (l.text ++ w4) := hlt ▸ cut r2
  have e2 : x.2 = x.2.takeWhile isWs ++ (op.text ++ r2) := takeOp_sound ho ▸ cut x.2
  have e1 : t = t.takeWhile isWs ++ (x.1 ++ x.2) := hsplit ▸ cut t
  simp only [RawCmp.render, List.append_assoc]
  rw [← e3, ← e2]
  exact e1

/-- a run of `p`-characters cannot continue into `s` -/
def HeadFails (p : Char → Bool) (s : Str) : Prop := ∀ c ∈ s.head?, p c = false

theorem headFails_cons {p : Char → Bool} {c : Char} {s : Str} : HeadFails p (c :: s) ↔ p c = false :=
  ⟨fun h => h c rfl, fun h _ hd => by
    cases hd
    exact h⟩

theorem headFails_append {p : Char → Bool} {a s : Str} (ha : a ≠ []) (h : HeadFails p a) : HeadFails p (a ++ s) := by
  cases a with
  | nil => exact absurd rfl ha
  | cons c r => exact h

theorem takeWhile_stop {p : Char → Bool} {a s : Str} (ha : a.all p = true) (h : HeadFails p s) :
    (a ++ s).takeWhile p = a := by
  rw [List.takeWhile_append_of_pos (List.all_eq_true.1 ha)]
  cases s with
  | nil => exact List.append_nil a
  | cons c r =>
    rw [List.takeWhile_cons, headFails_cons.1 h]
    exact List.append_nil a

theorem dropWhile_stop {p : Char → Bool} {a s : Str} (ha : a.all p = true) (h : HeadFails p s) :
    (a ++ s).dropWhile p = s := by
  have := List.takeWhile_append_dropWhile (p := p) (l := a ++ s)
  rw [takeWhile_stop ha h] at this
  exact List.append_cancel_left this

theorem dropWs_stop {w s : Str} (hw : allWs w = true) (hs : HeadFails isWs s) : dropWs (w ++ s) = s :=
  dropWhile_stop hw hs

theorem forall_isWs {P : Char → Prop} (hP : ∀ x ∈ [' ', '\t', '\n', '\x0c', '\r'], P x) (c : Char)
    (h : isWs c = true) : P c :=
  hP c (by simpa [isWs, or_assoc] using h)

/-- `hp` is the check of `p` on the five white-space bytes: `by decide` for a concrete class -/
theorem class_false_of_isWs {p : Char → Bool} (hp : [' ', '\t', '\n', '\x0c', '\r'].all (fun c => !p c) = true)
    (c : Char) (h : isWs c = true) : p c = false :=
  forall_isWs (fun x hx => Bool.not_eq_true' _ ▸ List.all_eq_true.1 hp x hx) c h

theorem isWs_false_of_class {p : Char → Bool} (hp : [' ', '\t', '\n', '\x0c', '\r'].all (fun c => !p c) = true)
    (c : Char) (h : p c = true) : isWs c = false :=
  Bool.eq_false_iff.2 fun hw => by
    rw [class_false_of_isWs hp c hw] at h
    cases h

theorem ws_vals (c : Char) (h : isWs c = true) :
    c.toNat = 32 ∨ c.toNat = 9 ∨ c.toNat = 10 ∨ c.toNat = 12 ∨ c.toNat = 13 := by
  revert c
  exact forall_isWs (by decide)

theorem notQuote_ws (c : Char) (h : isWs c = true) : (c != '\'') = true := by
  revert c
  exact forall_isWs (by decide)

theorem headFails_ws {p : Char → Bool} {w : Str} (hw : ∀ c, isWs c = true → p c = false)
    (hwall : allWs w = true) : HeadFails p w := by
  cases w with
  | nil => exact fun _ h => nomatch h
  | cons c r => exact headFails_cons.2 (hw c (Bool.and_eq_true_iff.1 hwall).1)

theorem headFails_ws_append {p : Char → Bool} {w s : Str} (hw : ∀ c, isWs c = true → p c = false)
    (hwall : allWs w = true) (hs : HeadFails p s) : HeadFails p (w ++ s) := by
  cases w with
  | nil => exact hs
  | cons c r => exact headFails_append (List.cons_ne_nil c r) (headFails_ws hw hwall)

/-- a byte that would extend a one-byte operator into a two-byte one -/
def opTail (c : Char) : Bool := c = '=' || c = '>'

theorem takeOp_complete (op : OpTok) (rest : Str) (h : HeadFails opTail rest) :
    takeOp (op.text ++ rest) = some (op, rest) := by
  cases rest with
  | nil => cases op <;> rfl
  | cons c r =>
    have hc := h c rfl
    simp only [opTail, Bool.or_eq_false_iff, decide_eq_false_iff_not] at hc
    cases op with
    | eq1 | gt | lt => simp [OpTok.text, takeOp, hc]
    | _ => rfl

theorem opText_head (op : OpTok) :
    op.text ≠ [] ∧ HeadFails isIdentChar op.text ∧ HeadFails isWs op.text := by
  cases op <;> exact ⟨List.cons_ne_nil _ _, headFails_cons.2 (by decide), headFails_cons.2 (by decide)⟩

theorem matchFrac_complete (neg : Bool) (ip : Str) (fp : Option Str) (w : Str)
    (hfp : ∀ f, fp = some f → isDigits f = true) (hw : allWs w = true) :
    matchFrac neg ip (fp.elim [] ('.' :: ·) ++ w) = some (.num neg ip fp) := by
  cases fp with
  | none =>
    show matchFrac neg ip w = _
    cases w with
    | nil => rfl
    | cons c r =>
      rw [matchFrac, if_pos hw]
      -- side goal of the catch-all arm: `.` is no white space
      rintro r' ⟨⟩
      exact absurd (List.all_eq_true.1 hw '.' List.mem_cons_self) (by decide)
  | some f =>
    obtain ⟨hne, hall⟩ := isDigits_iff.1 (hfp f rfl)
    have hhead : HeadFails isDigit w := headFails_ws (class_false_of_isWs (by decide)) hw
    simp only [Option.elim, List.cons_append, matchFrac, takeWhile_stop hall hhead, dropWhile_stop hall hhead, hw,
      if_true, List.isEmpty_iff, hne, if_false]

theorem matchDigits_complete (neg : Bool) (ip : Str) (fp : Option Str) (w : Str)
    (hwf : (RawLit.num neg ip fp).wf = true) (hw : allWs w = true) :
    matchDigits neg (ip ++ (fp.elim [] ('.' :: ·) ++ w)) = some (.num neg ip fp) := by
  obtain ⟨hip, hfp⟩ := wf_num.1 hwf
  obtain ⟨hne, hall⟩ := isDigits_iff.1 hip
  have hhead : HeadFails isDigit (fp.elim [] ('.' :: ·) ++ w) := by
    cases fp with
    | none => exact headFails_ws (class_false_of_isWs (by decide)) hw
    | some f => exact headFails_cons.2 (by decide)
  simp only [matchDigits, takeWhile_stop hall hhead, dropWhile_stop hall hhead, List.isEmpty_iff, hne, if_false,
    matchFrac_complete neg ip fp w hfp hw]

theorem matchQuoted_complete (raw w : Str) (hraw : raw.all (fun c => c != '\'') = true) (hw : allWs w = true) :
    matchQuoted (raw ++ '\'' :: w) = some (.str raw) := by
  have hhead : HeadFails (fun c => c != '\'') ('\'' :: w) := headFails_cons.2 (by decide)
  unfold matchQuoted
  simp only [takeWhile_stop hraw hhead, dropWhile_stop hraw hhead, hw, if_true]

theorem matchLit_digit {c : Char} (hc : isDigit c = true) (t : Str) :
    matchLit (c :: t) = matchDigits false (c :: t) := by
  rw [matchLit]
  -- side goals of the catch-all arm: a digit is neither `'` nor `-`
  · rintro r ⟨⟩
    exact absurd hc (by decide)
  · rintro r ⟨⟩
    exact absurd hc (by decide)

theorem matchLit_complete (l : RawLit) (w : Str) (hwf : l.wf = true) (hw : allWs w = true) :
    matchLit (l.text ++ w) = some l := by
  cases l with
  | str raw =>
    simp only [RawLit.text, List.cons_append, List.append_assoc, List.nil_append, matchLit]
    exact matchQuoted_complete raw w hwf hw
  | num neg ip fp =>
    have hd := matchDigits_complete neg ip fp w hwf hw
    rw [text_num, List.append_assoc, List.append_assoc]
    cases neg with
    | true => exact hd
    | false =>
      obtain ⟨hne, hall⟩ := isDigits_iff.1 (wf_num.1 hwf).1
      cases ip with
      | nil => exact absurd rfl hne
      | cons c r => exact (matchLit_digit (List.all_eq_true.1 hall c List.mem_cons_self) _).trans hd

theorem litText_head (l : RawLit) (hwf : l.wf = true) :
    l.text ≠ [] ∧ HeadFails opTail l.text ∧ HeadFails isWs l.text := by
  cases l with
  | str raw => exact ⟨List.cons_ne_nil _ _, headFails_cons.2 rfl, headFails_cons.2 rfl⟩
  | num neg ip fp =>
    obtain ⟨hne, hall⟩ := isDigits_iff.1 (wf_num.1 hwf).1
    rw [text_num]
    cases neg with
    | true => exact ⟨List.cons_ne_nil _ _, headFails_cons.2 rfl, headFails_cons.2 rfl⟩
    | false =>
      cases ip with
      | nil => exact absurd rfl hne
      | cons c r =>
        have hc : isDigit c = true := List.all_eq_true.1 hall c List.mem_cons_self
        refine ⟨List.cons_ne_nil _ _, headFails_cons.2 (Bool.eq_false_iff.2 fun h => ?_),
          headFails_cons.2 (isWs_false_of_class (by decide) c hc)⟩
        simp only [opTail, Bool.or_eq_true, decide_eq_true_eq] at h
        rcases h with rfl | rfl <;> exact absurd hc (by decide)

theorem matchIdent_complete (f rest : Str) (hf : isIdent f = true) (hrest : HeadFails isIdentChar rest) :
    matchIdent (f ++ rest) = some (f, rest) := by
  cases f with
  | nil => simp [isIdent] at hf
  | cons c r =>
    simp only [isIdent, Bool.and_eq_true] at hf
    simp only [matchIdent, List.cons_append, hf.1, if_true, takeWhile_stop hf.2 hrest, dropWhile_stop hf.2 hrest]

theorem matchCmp_complete (r : RawCmp) (w1 w2 w3 w4 : Str) (hwf : r.wf = true)
    (h1 : allWs w1 = true) (h2 : allWs w2 = true) (h3 : allWs w3 = true) (h4 : allWs w4 = true) :
    matchCmp (r.render w1 w2 w3 w4) = some r := by
  obtain ⟨f, op, l⟩ := r
  simp only [RawCmp.wf, Bool.and_eq_true] at hwf
  obtain ⟨hf, hl⟩ := hwf
  obtain ⟨hone, hoi, how⟩ := opText_head op
  obtain ⟨hlne, hlo, hlw⟩ := litText_head l hl
  have hL : HeadFails isWs (l.text ++ w4) := headFails_append hlne hlw
  have hLo : HeadFails opTail (w3 ++ (l.text ++ w4)) :=
    headFails_ws_append (class_false_of_isWs (by decide)) h3 (headFails_append hlne hlo)
  have hO : HeadFails isWs (op.text ++ (w3 ++ (l.text ++ w4))) := headFails_append hone how
  have hOi : HeadFails isIdentChar (w2 ++ (op.text ++ (w3 ++ (l.text ++ w4)))) :=
    headFails_ws_append (class_false_of_isWs (by decide)) h2 (headFails_append hone hoi)
  have hF : HeadFails isWs (f ++ (w2 ++ (op.text ++ (w3 ++ (l.text ++ w4))))) := by
    cases f with
    | nil => cases hf
    | cons c r => exact headFails_cons.2 (isWs_false_of_class (by decide) c (Bool.and_eq_true_iff.1 hf).1)
  simp only [RawCmp.render, List.append_assoc]
  unfold matchCmp
  rw [dropWs_stop h1 hF, matchIdent_complete f _ hf hOi]
  simp only [Option.bind_some, matchAfterIdent]
  rw [dropWs_stop h2 hO, takeOp_complete op _ hLo]
  simp only [Option.bind_some, matchAfterOp]
  rw [dropWs_stop h3 hL, matchLit_complete l w4 hl h4]
  rfl

theorem hasPair_tail {a y : Char} {r : Str} (h : hasPair a (y :: r) = false) : hasPair a r = false := by
  cases r with
  | nil => rfl
  | cons z r' =>
    simp only [hasPair, Bool.or_eq_false_iff] at h
    exact h.2

theorem splitOps_ne_nil (t cur : Str) : splitOps t cur ≠ [] := by
  fun_induction splitOps t cur <;> simp_all

theorem joinWith_cons (sep p : Str) {ps : List Str} (h : ps ≠ []) :
    joinWith sep (p :: ps) = p ++ sep ++ joinWith sep ps := by
  cases ps with
  | nil => exact absurd rfl h
  | cons q qs => rfl

theorem splitOps_join (sep other : Char)
    (hso : (sep = '&' ∧ other = '|') ∨ (sep = '|' ∧ other = '&')) (t cur : Str)
    (h : hasPair other t = false) : cur.reverse ++ t = joinWith [sep, sep] (splitOps t cur) := by
  fun_induction splitOps t cur with
  | case1 cur => simp [joinWith]  -- text exhausted
  | case2 c cur => simp [joinWith]  -- one byte left
  | case3 x y r cur hsep ih =>  -- at a pair `&&` or `||`
    have hxy : x = sep ∧ y = sep := by
      have hno : ¬ (x = other ∧ y = other) := fun hxo => by simp [hasPair, hxo.1, hxo.2] at h
      simp only [Bool.or_eq_true, Bool.and_eq_true, decide_eq_true_eq] at hsep
      rcases hso with ⟨rfl, rfl⟩ | ⟨rfl, rfl⟩ <;> rcases hsep with hxy | hxy
      · exact hxy  -- `&&`, cutting at `&&`
      · exact absurd hxy hno  -- `||`, cutting at `&&`
      · exact absurd hxy hno  -- `&&`, cutting at `||`
      · exact hxy  -- `||`, cutting at `||`
    rw [joinWith_cons _ _ (splitOps_ne_nil r []), ← ih (hasPair_tail (hasPair_tail h))]
    simp [hxy.1, hxy.2]
  | case4 x y r cur hsep ih =>  -- any other byte
    rw [← ih (hasPair_tail h)]
    simp

theorem newCond_sound {t : Str} {p : Pred} {c : CondM} (hparse : parseAgrees t p = true)
    (h : newCond t (some p) = some c) : c.Sound := by
  simp only [newCond, Option.map_some, Option.some.injEq] at h
  subst h
  unfold parseAgrees at hparse
  constructor
  · intro f hf
    simp only at hf
    cases hc : tryFastCompound t with
    | some x => simp [hc] at hf
    | none =>
      simp only [hc, Option.isSome_none, Bool.false_eq_true, if_false] at hf
      cases hr : tryFastCompare t with
      | none => simp [hr] at hf
      | some r =>
        simp only [hr, Option.map_some, Option.some.injEq] at hf
        simp only [hc, hr, decide_eq_true_eq] at hparse
        rw [hparse, hf]
  · intro isAnd parts hcomp
    simp only at hcomp
    cases hc : tryFastCompound t with
    | none => simp [hc] at hcomp
    | some x =>
      obtain ⟨a, rs⟩ := x
      simp only [hc, Option.map_some, Option.some.injEq, Prod.mk.injEq] at hcomp
      simp only [hc, decide_eq_true_eq] at hparse
      rw [← hcomp.1, ← hcomp.2]
      exact hparse

end Cond
