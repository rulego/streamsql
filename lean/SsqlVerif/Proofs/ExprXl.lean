/-
C06 — the strict (expr-lang) table model `xl` agrees with the SQL reference when no sub-expression
is NULL on the row.
-/
import SsqlVerif.Proofs.Expr
set_option autoImplicit false

namespace Ex
open NumOps

section
variable {ν : Type} [NumOps ν]

theorem xlArith_sql {op : AOp} {x y v : Value ν} (h : sqlArith op x y = .ok v)
    (hx : x ≠ .null) (hy : y ≠ .null) : xlArith op x y = some v := by
  unfold sqlArith at h
  split at h
  · -- two numbers
    exact congrArg some (sqlArith_num h).1.symm
  -- a NULL operand (excluded), or a type error
  all_goals first | exact absurd rfl hx | exact absurd rfl hy | cases h

theorem xlCmp_sql {op : COp} {x y v : Value ν} (h : sqlCmp op x y = .ok v)
    (hx : x ≠ .null) (hy : y ≠ .null) : (xlCmp op x y).map Value.bool = some v := by
  revert h hx hy
  fun_cases sqlCmp op x y
  all_goals intro h hx hy
  case case1 => exact absurd rfl hx  -- NULL, _
  case case2 => exact absurd rfl hy  -- _, NULL
  all_goals cases h
  case case3 | case4 => cases op <;> rfl  -- numbers, strings
  case case5 | case6 => rfl  -- booleans under `=`, `!=`

omit [NumOps ν] in
theorem sqlAnd_nonNull {x y v : Value ν} (h : sqlAnd x y = .ok v) (hx : x ≠ .null) (hy : y ≠ .null) :
    ∃ a b, x = .bool a ∧ y = .bool b ∧ v = .bool (a && b) := by
  revert h hx hy
  fun_cases sqlAnd x y
  all_goals intro h hx hy
  all_goals cases h
  case case1 | case3 => exact ⟨_, _, rfl, rfl, rfl⟩  -- two booleans
  case case2 | case4 => exact absurd rfl hy  -- _, NULL
  all_goals exact absurd rfl hx  -- NULL, _

omit [NumOps ν] in
theorem sqlOr_nonNull {x y v : Value ν} (h : sqlOr x y = .ok v) (hx : x ≠ .null) (hy : y ≠ .null) :
    ∃ a b, x = .bool a ∧ y = .bool b ∧ v = .bool (a || b) := by
  revert h hx hy
  fun_cases sqlOr x y
  all_goals intro h hx hy
  all_goals cases h
  case case1 | case3 => exact ⟨_, _, rfl, rfl, rfl⟩  -- two booleans
  case case2 | case4 => exact absurd rfl hy  -- _, NULL
  all_goals exact absurd rfl hx  -- NULL, _

variable {env : Env ν} {row : Row ν}

theorem nonNull_ne_null {e : Expr} {v : Value ν}
    (hn : nonNull env row e = true) (h : sqlEval env row e .e = .ok v) : v ≠ .null := by
  unfold nonNull at hn
  rw [h] at hn
  rintro rfl
  cases hn

theorem allNonNull_nonNull (e : Expr) :
    allNonNull env row e = true → nonNull env row e = true := by
  -- cases numbered as the arms of `allNonNull`
  fun_induction allNonNull env row e with
  | case1 | case2 => exact fun _ => rfl  -- .lit, .str
  | case3 c => exact id  -- .col
  | case4 e ih => exact ih  -- .paren
  | case14 => nofun  -- CASE and its arms
  | _ => exact fun h => (Bool.and_eq_true_iff.1 h).2  -- operators, calls: `… && nonNull env row e`

theorem allNonNull_value {e : Expr} {v : Value ν}
    (ha : allNonNull env row e = true) (h : sqlEval env row e .e = .ok v) : v ≠ .null :=
  nonNull_ne_null (allNonNull_nonNull e ha) h

theorem constInt_sound (e : Expr) : ∀ (x : ν) (v : Value ν),
    constInt e = some x → sqlEval env row e .e = .ok v → v = .num x := by
  -- cases numbered as the arms of `constInt`, a `match` on the operands counting two
  fun_induction constInt (ν := ν) e with
  | case1 l hq =>  -- .lit, whole
    intro x v hc h
    cases hc
    cases h
    exact congrArg Value.num (if_pos hq)
  | case3 e ih => exact ih  -- .paren
  | case4 e ih =>  -- .neg
    intro x v hc h
    obtain ⟨a, b, ha, hb, hf⟩ := bind2_ok h
    cases ha
    obtain ⟨y, hce, rfl⟩ := Option.map_eq_some_iff.1 hc
    cases ih y b hce hb
    exact (sqlArith_num hf).1
  -- .arith .add, .sub, .mul
  | case5 l r p q hr hl ihl ihr | case7 l r p q hr hl ihl ihr | case9 l r p q hr hl ihl ihr =>
    intro x v hc h
    cases hc
    obtain ⟨a, b, ha, hb, hf⟩ := bind2_ok h
    cases ihl p a hl ha
    cases ihr q b hr hb
    exact (sqlArith_num hf).1
  | case2 | case6 | case8 | case10 | case11 => nofun  -- `constInt e = none`

theorem constStr_sound (e : Expr) : ∀ (s : Str) (v : Value ν),
    constStr e = some s → sqlEval env row e .e = .ok v → v = .str s := by
  fun_induction constStr e with
  | case1 t =>  -- .str
    intro s v hc h
    cases hc
    cases h
    rfl
  | case2 e ih => exact ih  -- .paren
  | case3 => nofun  -- `constStr e = none`

omit [NumOps ν] in
theorem andTable_sound (fl fr : Option Bool) (p q b : Bool)
    (hl : ∀ x, fl = some x → x = p) (hr : ∀ x, fr = some x → x = q)
    (hf : andTable fl fr = some b) : (p && q) = b := by
  revert hl hr hf
  fun_cases andTable fl fr
  all_goals intro hl hr hf
  case case1 =>  -- true, _
    cases hl _ rfl
    cases hr _ hf
    rfl
  case case2 =>  -- _, true
    cases hr _ rfl
    cases hl _ hf
    exact Bool.and_true _
  case case3 =>  -- false, _
    cases hl _ rfl
    cases hf
    rfl
  case case4 =>  -- _, false
    cases hr _ rfl
    cases hf
    exact Bool.and_false _
  case case5 => cases hf

omit [NumOps ν] in
theorem orTable_sound (fl fr : Option Bool) (p q b : Bool)
    (hl : ∀ x, fl = some x → x = p) (hr : ∀ x, fr = some x → x = q)
    (hf : orTable fl fr = some b) : (p || q) = b := by
  revert hl hr hf
  fun_cases orTable fl fr
  all_goals intro hl hr hf
  case case1 =>  -- false, _
    cases hl _ rfl
    cases hr _ hf
    rfl
  case case2 =>  -- _, false
    cases hr _ rfl
    cases hl _ hf
    exact Bool.or_false _
  case case3 =>  -- true, _
    cases hl _ rfl
    cases hf
    rfl
  case case4 =>  -- _, true
    cases hr _ rfl
    cases hf
    exact Bool.or_true _
  case case5 => cases hf

theorem fold_sound (e : Expr) : ∀ (b : Bool) (v : Value ν),
    foldBool (ν := ν) e = some b → allNonNull env row e = true → sqlEval env row e .e = .ok v → v = .bool b := by
  fun_induction foldBool (ν := ν) e with
  | case1 e ih => exact ih  -- .paren
  | case2 l r sb hs =>  -- .cmp .eq, strings
    intro b v hf _ h
    cases hf
    obtain ⟨x, y, hx, hy, hc⟩ := bind2_ok h
    unfold foldStrEq at hs
    split at hs <;> cases hs
    cases constStr_sound l _ x ‹_› hx
    cases constStr_sound r _ y ‹_› hy
    cases hc
    rfl
  | case3 l r _ =>  -- .cmp .eq, integers
    intro b v hf _ h
    obtain ⟨x, y, hx, hy, hc⟩ := bind2_ok h
    unfold foldIntEq at hf
    split at hf <;> cases hf
    cases constInt_sound l _ x ‹_› hx
    cases constInt_sound r _ y ‹_› hy
    cases hc
    rfl
  | case4 e ih =>  -- .not
    intro b v hf ha h
    obtain ⟨x, hx, hn⟩ := bind_ok h
    obtain ⟨b', hfe, rfl⟩ := Option.map_eq_some_iff.1 hf
    cases ih b' x hfe (Bool.and_eq_true_iff.1 ha).1 hx
    cases hn
    rfl
  | case5 l r ihl ihr =>  -- .and
    intro b v hf ha h
    obtain ⟨x, y, hx, hy, hc⟩ := bind2_ok h
    obtain ⟨hal, har⟩ := Bool.and_eq_true_iff.1 (Bool.and_eq_true_iff.1 ha).1
    obtain ⟨p, q, rfl, rfl, rfl⟩ := sqlAnd_nonNull hc (allNonNull_value hal hx) (allNonNull_value har hy)
    have hl : ∀ z, foldBool (ν := ν) l = some z → z = p := fun z hz => Value.bool.inj (ihl z _ hz hal hx).symm
    have hr : ∀ z, foldBool (ν := ν) r = some z → z = q := fun z hz => Value.bool.inj (ihr z _ hz har hy).symm
    exact congrArg Value.bool (andTable_sound _ _ p q b hl hr hf)
  | case6 l r ihl ihr =>  -- .or
    intro b v hf ha h
    obtain ⟨x, y, hx, hy, hc⟩ := bind2_ok h
    obtain ⟨hal, har⟩ := Bool.and_eq_true_iff.1 (Bool.and_eq_true_iff.1 ha).1
    obtain ⟨p, q, rfl, rfl, rfl⟩ := sqlOr_nonNull hc (allNonNull_value hal hx) (allNonNull_value har hy)
    have hl : ∀ z, foldBool (ν := ν) l = some z → z = p := fun z hz => Value.bool.inj (ihl z _ hz hal hx).symm
    have hr : ∀ z, foldBool (ν := ν) r = some z → z = q := fun z hz => Value.bool.inj (ihr z _ hz har hy).symm
    exact congrArg Value.bool (orTable_sound _ _ p q b hl hr hf)
  | case7 => nofun  -- no folding

/-- SELECT position only declines more: the SQL keywords do not compile there -/
theorem xl_sel_le (e : Expr) :
    ∀ v, xl env row true e = some v → xl env row false e = some v := by
  induction e with
  | lit | str | col => exact fun _ h => h
  | paren e ih => exact ih
  | neg e ih | call1 f e ih =>
    intro v h
    dsimp only [xl] at h ⊢
    split at h
    · next x hx =>
      rw [ih _ hx]
      exact h
    · cases h
  | arith op l r ihl ihr | call2 f l r ihl ihr =>
    intro v h
    dsimp only [xl] at h ⊢
    split at h
    · next a b ha hb =>
      rw [ihl a ha, ihr b hb]
      exact h
    · cases h
  | cmp op l r ihl ihr =>
    intro v h
    dsimp only [xl] at h ⊢
    split at h
    · cases h
    · split at h
      · next a b ha hb =>
        rw [ihl a ha, ihr b hb]
        exact h
      · cases h
  | call3 f a b c iha ihb ihc =>
    intro v h
    dsimp only [xl] at h ⊢
    split at h
    · next x y z hx hy hz =>
      rw [iha x hx, ihb y hy, ihc z hz]
      exact h
    · cases h
  | _ =>
    intro v h
    cases h

/-- WHERE position only; what SELECT position answers, if it answers, is the same value by `xl_sel_le`. -/
theorem xl_sound (e : Expr) :
    allNonNull env row e = true → ∀ v, sqlEval env row e .e = .ok v → xl env row false e = some v := by
  -- cases numbered as the arms of `allNonNull`
  fun_induction allNonNull env row e with
  | case1 | case2 | case3 =>  -- .lit, .str, .col
    intro _ v h
    cases h
    rfl
  | case4 e ih => exact ih  -- .paren
  | case5 e ih =>  -- .neg
    intro ha v h
    obtain ⟨hae, _⟩ := Bool.and_eq_true_iff.1 ha
    obtain ⟨x, y, hx, hy, hf⟩ := bind2_ok h
    cases hx
    have hxa := xlArith_sql hf nofun (allNonNull_value hae hy)
    dsimp only [xl]
    rw [ih hae y hy]
    cases y with
    | num b => exact hxa
    | _ => cases hxa
  | case6 op l r ihl ihr =>  -- .arith
    intro ha v h
    obtain ⟨hal, har⟩ := Bool.and_eq_true_iff.1 (Bool.and_eq_true_iff.1 ha).1
    obtain ⟨x, y, hx, hy, hf⟩ := bind2_ok h
    dsimp only [xl]
    rw [ihl hal x hx, ihr har y hy]
    exact xlArith_sql hf (allNonNull_value hal hx) (allNonNull_value har hy)
  | case7 op l r ihl ihr =>  -- .cmp
    intro ha v h
    obtain ⟨hal, har⟩ := Bool.and_eq_true_iff.1 (Bool.and_eq_true_iff.1 ha).1
    obtain ⟨x, y, hx, hy, hf⟩ := bind2_ok h
    dsimp only [xl]
    rw [ihl hal x hx, ihr har y hy]
    exact xlCmp_sql hf (allNonNull_value hal hx) (allNonNull_value har hy)
  | case8 l r ihl ihr =>  -- .and
    intro ha v h
    dsimp only [xl]
    rw [if_neg Bool.false_ne_true]
    split
    · next fb hfold => exact congrArg some (fold_sound _ fb v hfold ha h).symm
    · obtain ⟨hal, har⟩ := Bool.and_eq_true_iff.1 (Bool.and_eq_true_iff.1 ha).1
      obtain ⟨x, y, hx, hy, hf⟩ := bind2_ok h
      obtain ⟨a, b, rfl, rfl, rfl⟩ := sqlAnd_nonNull hf (allNonNull_value hal hx) (allNonNull_value har hy)
      rw [ihl hal _ hx, ihr har _ hy]
      cases a <;> rfl
  | case9 l r ihl ihr =>  -- .or
    intro ha v h
    dsimp only [xl]
    rw [if_neg Bool.false_ne_true]
    split
    · next fb hfold => exact congrArg some (fold_sound _ fb v hfold ha h).symm
    · obtain ⟨hal, har⟩ := Bool.and_eq_true_iff.1 (Bool.and_eq_true_iff.1 ha).1
      obtain ⟨x, y, hx, hy, hf⟩ := bind2_ok h
      obtain ⟨a, b, rfl, rfl, rfl⟩ := sqlOr_nonNull hf (allNonNull_value hal hx) (allNonNull_value har hy)
      rw [ihl hal _ hx, ihr har _ hy]
      cases a <;> rfl
  | case10 e ih =>  -- .not
    intro ha v h
    dsimp only [xl]
    rw [if_neg Bool.false_ne_true]
    split
    · next fb hfold => exact congrArg some (fold_sound _ fb v hfold ha h).symm
    · obtain ⟨hae, _⟩ := Bool.and_eq_true_iff.1 ha
      obtain ⟨x, hx, hn⟩ := bind_ok h
      rw [ih hae x hx]
      unfold sqlNot at hn
      split at hn <;> cases hn
      · rfl
      · exact absurd rfl (allNonNull_value hae hx)
  | case11 f a iha =>  -- .call1
    intro ha v h
    obtain ⟨x, hx, hf⟩ := bind_ok h
    dsimp only [xl]
    rw [iha (Bool.and_eq_true_iff.1 ha).1 x hx]
    exact sqlCall_ok hf
  | case12 f a b iha ihb =>  -- .call2
    intro ha v h
    obtain ⟨hal, har⟩ := Bool.and_eq_true_iff.1 (Bool.and_eq_true_iff.1 ha).1
    obtain ⟨x, y, hx, hy, hf⟩ := bind2_ok h
    dsimp only [xl]
    rw [iha hal x hx, ihb har y hy]
    exact sqlCall_ok hf
  | case13 f a b c iha ihb ihc =>  -- .call3
    intro ha v h
    obtain ⟨hab, hac⟩ := Bool.and_eq_true_iff.1 (Bool.and_eq_true_iff.1 ha).1
    obtain ⟨haa, hab⟩ := Bool.and_eq_true_iff.1 hab
    obtain ⟨x, y, z, hx, hy, hz, hf⟩ := bind3_ok h
    dsimp only [xl]
    rw [iha haa x hx, ihb hab y hy, ihc hac z hz]
    exact sqlCall_ok hf
  | case14 => nofun  -- CASE and its arms

end
end Ex
