/-
C01 — Tumbling windows count every accepted event exactly once, in its own window.
All statements quantify over every window size, MAXOUTOFORDERNESS and op sequence: every arrival order and every
interleaving of `Add` with the watermark ticker and the trigger goroutine's critical sections, of any length.
Shape, order and completeness of the results are for ALLOWEDLATENESS = 0; the counting identity and the purge
theorem for every ALLOWEDLATENESS.  Late updates are C02, aggregation of an emitted batch C03/C04.
-/
import SsqlVerif.Proofs.TumblingHist
import SsqlVerif.Proofs.TumblingPT
import SsqlVerif.Proofs.TumblingLateConserve
import SsqlVerif.Generated.Facts
set_option autoImplicit false

namespace C01
open Tumbling

/-- op sequences of the quantifier: timestamps are post-epoch (Go's alignment truncates) -/
def OpsOk (ops : List Op) : Prop := ∀ op ∈ ops, OpOk op

theorem l0_init (size ooo : Int) : L0 (init size ooo 0) := ⟨rfl, rfl⟩

/-- **Exactly once (counting form).** For every row value `x`: occurrences still buffered plus
occurrences in emitted results equal the number of times `x` was accepted: a row value accepted once is
reported at most once over all results together. -/
theorem exactly_once_counting (size ooo : Int) (ops : List Op) (x : Row) :
    (run (init size ooo 0) ops).1.data.count x + (rowsOf (run (init size ooo 0) ops).2).count x
      = (acceptedRows (init size ooo 0) ops).count x := by
  have := run_conserve (init size ooo 0) ops x (l0_init size ooo)
  simpa [init] using this

theorem all_first (size ooo : Int) (hs : 0 < size) (ops : List Op) (hok : OpsOk ops) :
    ∀ e ∈ (run (init size ooo 0) ops).2, e.kind = .first := by
  intro e he
  cases hk : e.kind with
  | first => rfl
  | late =>
    have := ((hist_reach size ooo 0 hs ops hok).2.hem e he).hlate hk
    rw [(run_frame _ ops).2] at this
    exact absurd this (Int.lt_irrefl 0)

/-- **Own window.** Every emitted result is a first firing of a size-aligned interval
`[k·size, (k+1)·size)`, non-empty, and contains only rows whose timestamp lies in that interval. -/
theorem emission_shape (size ooo : Int) (hs : 0 < size) (ops : List Op) (hok : OpsOk ops) :
    ∀ e ∈ (run (init size ooo 0) ops).2,
      e.kind = .first ∧ e.stop = e.start + size ∧ size ∣ e.start ∧ e.rows ≠ [] ∧
      ∀ r ∈ e.rows, e.start ≤ r.ts ∧ r.ts < e.stop := by
  intro e he
  have h := (hist_reach size ooo 0 hs ops hok).2.hem e he
  have hk := all_first size ooo hs ops hok e he
  obtain ⟨hd, hne, hin⟩ := h.hfirst hk
  have hst := h.hstop
  rw [(run_frame _ ops).1] at hd hin hst
  refine ⟨hk, hst, hd, hne, fun r hr => ?_⟩
  rw [hst]
  exact (inSlot_iff _ _ _).mp (hin r hr)

/-- **No interval twice, in order.** First firings come in strictly increasing interval order;
in particular no interval is reported twice. -/
theorem intervals_strictly_increasing (size ooo : Int) (hs : 0 < size) (ops : List Op) (hok : OpsOk ops) :
    (run (init size ooo 0) ops).2.Pairwise (fun a b => a.start < b.start) := by
  have h := (hist_reach size ooo 0 hs ops hok).2.hincr
  rwa [List.filter_eq_self.mpr fun e he => decide_eq_true (all_first size ooo hs ops hok e he)] at h

/-- **No row in two intervals.** Two results that contain the same row are results for the same
interval (and by `intervals_strictly_increasing` there is only one such result). -/
theorem row_in_one_interval (size ooo : Int) (hs : 0 < size) (ops : List Op) (hok : OpsOk ops)
    (e1 e2 : Emission) (h1 : e1 ∈ (run (init size ooo 0) ops).2) (h2 : e2 ∈ (run (init size ooo 0) ops).2)
    (r : Row) (hr1 : r ∈ e1.rows) (hr2 : r ∈ e2.rows) : e1.start = e2.start := by
  obtain ⟨hg, hh⟩ := hist_reach size ooo 0 hs ops hok
  exact shared_row_same_start _ hg.hsize e1 e2 r (hh.hem e1 h1) (hh.hem e2 h2)
    (all_first size ooo hs ops hok e1 h1) (all_first size ooo hs ops hok e2 h2) hr1 hr2

/-- **On-time rows are accepted.** A row that is not behind the watermark on arrival is buffered. -/
theorem ontime_accepted (s : TW) (r : Row) (now : Int) (h : lateNow s r now = false) :
    fate s r now = .keep := by
  unfold fate
  rw [h]
  rfl

/-- **Completeness.** In every reachable state, a row that is still buffered belongs to an interval
whose end the last completed trigger pass (watermark `w`) has not reached.  (`hts`: the invariant does not record
that buffered rows are post-epoch.) -/
theorem buffered_not_passed (size ooo : Int) (hs : 0 < size) (ops : List Op) (hok : OpsOk ops)
    (w : Int) (hw : (run (init size ooo 0) ops).1.doneW = some w)
    (x : Row) (hx : x ∈ (run (init size ooo 0) ops).1.data) (hts : 0 ≤ x.ts) :
    w < alignDown x.ts size + size := by
  have hg := (hist_reach size ooo 0 hs ops hok).1
  cases hc : (run (init size ooo 0) ops).1.cur with
  | none =>
    rw [(hg.hinit hc).2] at hw
    cases hw
  | some c =>
    have h1 := hg.hdata c hc x hx
    have h2 := le_alignDown_of_dvd c x.ts _ hts hg.hsize (hg.halign c hc) h1
    have h3 := hg.hdoneCur w c hw hc
    simp only [(run_frame _ ops).1, init] at h2 h3
    exact Int.lt_of_lt_of_le h3 (Int.add_le_add_right h2 _)

/-- Every accepted row whose interval the last completed pass has passed was emitted, exactly as often as it
was accepted (by `buffered_not_passed` it is no longer buffered). -/
theorem accepted_and_passed_is_emitted (size ooo : Int) (hs : 0 < size) (ops : List Op) (hok : OpsOk ops)
    (w : Int) (hw : (run (init size ooo 0) ops).1.doneW = some w)
    (x : Row) (hts : 0 ≤ x.ts) (hpassed : alignDown x.ts size + size ≤ w) :
    (rowsOf (run (init size ooo 0) ops).2).count x = (acceptedRows (init size ooo 0) ops).count x := by
  have h1 := exactly_once_counting size ooo ops x
  have h2 : (run (init size ooo 0) ops).1.data.count x = 0 :=
    List.count_eq_zero.mpr fun hx =>
      absurd hpassed (Int.not_le.mpr (buffered_not_passed size ooo hs ops hok w hw x hx hts))
  rwa [h2, Nat.zero_add] at h1

/-- **Processing time.** Under the clock hypothesis (`PtAllOk`: a row's time never precedes the current slot)
nothing is lost or duplicated: buffered + emitted = all rows added. -/
theorem processing_time_exactly_once (s : TW) (ops : List PtOp) (x : Row) (hg : PtGood s)
    (hok : PtAllOk s ops) :
    (ptRun s ops).1.data.count x + (rowsOf (ptRun s ops).2).count x
      = s.data.count x + (ops.filterMap (fun o => match o with | .add r => some r | .tick => none)).count x :=
  ptRun_conserve s ops x hg hok

/-- **Exactly once, any ALLOWEDLATENESS.** For every row value `x`, in every reachable state: occurrences still buffered
plus occurrences reported by FIRST firings equal the number of times `x` was accepted.  Late re-deliveries repeat the
rows of their interval and are not counted; neither a late update nor the purge that ends an allowance
(`closeExpiredWindows`) removes a buffered row — no buffered row ever lies inside a triggered window. -/
theorem exactly_once_counting_any_lateness (size ooo lateness : Int) (hs : 0 < size) (ops : List Op) (hok : OpsOk ops) (x : Row) :
    (run (init size ooo lateness) ops).1.data.count x + (firstRowsOf (run (init size ooo lateness) ops).2).count x
      = (acceptedRows (init size ooo lateness) ops).count x := by
  have := run_conserve_late (init size ooo lateness) ops [] x (good_init size ooo lateness hs)
    (hist_init size ooo lateness) hok
  simpa [init] using this

/-- The purge at the end of an allowance (`closeExpiredWindows`) keeps every buffered row, in every reachable state. -/
theorem purge_keeps_pending_rows (size ooo lateness : Int) (hs : 0 < size) (ops : List Op) (hok : OpsOk ops) (w : Int) :
    (closeExpired (run (init size ooo lateness) ops).1 w).data = (run (init size ooo lateness) ops).1.data := by
  obtain ⟨hg, hh⟩ := hist_reach size ooo lateness hs ops hok
  exact closeExpired_data _ w (hh.apart hg)

theorem facts_watermark : Facts.window_maxFutureSlack = 86400000000000 := by decide

/-! ### non-vacuity: a concrete history meeting the hypotheses and exercising the re-seat path -/
def demoOps : List Op :=
  [.add ⟨1, 10500⟩ 1000000, .add ⟨2, 9700⟩ 1000000, .add ⟨3, 10600⟩ 1000000, .add ⟨4, 20000⟩ 1000000,
   .pop, .iter, .pop, .iter, .pop, .iter, .iter, .iter, .iter, .iter, .iter, .iter, .iter, .iter, .iter]

example : OpsOk demoOps := by unfold OpsOk; decide +kernel
example : ((run (init 1000 2000 0) demoOps).2.map (fun e => (e.start, e.rows.map (·.id))))
    = [(9000, [2]), (10000, [1, 3])] := by decide +kernel
example : (run (init 1000 2000 0) demoOps).1.doneW = some 18000 := by decide +kernel

/-! ### non-vacuity with ALLOWEDLATENESS > 0: a row exactly on a boundary survives the purge that ends the allowance of the
interval before it (size 1000, ALLOWEDLATENESS 200: [0,1000) fires at watermark 1000 and is purged at 1300) -/
def lateOps : List Op :=
  [.add ⟨1, 100⟩ 1000000, .add ⟨2, 1000⟩ 1000000, .pop, .iter, .pop, .iter, .iter, .add ⟨3, 1300⟩ 1000000,
   .pop, .iter,
   .add ⟨4, 2100⟩ 1000000, .pop, .iter, .iter, .iter]
example : OpsOk lateOps := by unfold OpsOk; decide +kernel
-- after the purge (first ten ops): nothing is registered any more, rows 2 and 3 are still buffered
example : (run (init 1000 0 200) (lateOps.take 10)).1.fired = [] := by decide +kernel
example : (run (init 1000 0 200) (lateOps.take 10)).1.data.map (·.id) = [2, 3] := by decide +kernel
example : (run (init 1000 0 200) lateOps).2.map (fun e => (e.start, e.rows.map (·.id)))
    = [(0, [1]), (1000, [2, 3])] := by decide +kernel

end C01
