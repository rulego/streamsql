/-
The watermark component on its own.  `Move`: the one step every operation of the three window models takes on it.
-/
import SsqlVerif.Model.Watermark
set_option autoImplicit false

namespace Tumbling

/-- `x ≤ o` for an optional watermark (`none` = no watermark yet: nothing is below it) -/
def leOpt (x : Int) (o : Option Int) : Prop := ∃ y, o = some y ∧ x ≤ y

open Wm in
theorem leOpt_raise_self (cur : Option Int) (nw : Int) : leOpt nw (raise cur nw) := by
  unfold raise
  split
  · exact ⟨nw, rfl, Int.le_refl _⟩
  · rename_i ha
    cases cur with
    | none => exact absurd rfl ha
    | some y =>
      simp only [after, decide_eq_true_eq] at ha
      exact ⟨y, rfl, Int.not_lt.mp ha⟩

end Tumbling

namespace Wm
open Tumbling (leOpt)

theorem leOpt_self {x : Int} {o : Option Int} (h : o = some x) : leOpt x o := ⟨x, h, Int.le_refl _⟩

theorem raise_cases (cur : Option Int) (nw c : Int) (h : raise cur nw = some c) : c = nw ∨ cur = some c := by
  unfold raise at h
  split at h
  · exact Or.inl (Option.some.inj h).symm
  · exact Or.inr h

theorem leOpt_raise (x : Int) (cur : Option Int) (nw : Int) (h : leOpt x cur) : leOpt x (raise cur nw) := by
  obtain ⟨y, rfl, hxy⟩ := h
  unfold raise
  split
  · rename_i ha
    simp only [after, decide_eq_true_eq] at ha
    exact ⟨nw, rfl, Int.le_of_lt (Int.lt_of_le_of_lt hxy ha)⟩
  · exact ⟨y, rfl, hxy⟩

theorem send_eq (w : Wm) :
    send w = w ∨ ∃ c, w.cur = some c ∧ send w = { w with chan := w.chan ++ [c], lastSent := some c } := by
  fun_cases send w
  case case1 => exact Or.inl rfl  -- no watermark yet
  case case2 c hc _ _ => exact Or.inr ⟨c, hc, rfl⟩  -- queued
  case case3 => exact Or.inl rfl  -- channel full
  case case4 => exact Or.inl rfl  -- already sent

theorem send_frame (w : Wm) :
    (send w).cur = w.cur ∧ (send w).maxEv = w.maxEv ∧ (send w).maxOOO = w.maxOOO ∧ (send w).slack = w.slack := by
  rcases send_eq w with h | ⟨c, _, h⟩ <;> rw [h]
  all_goals exact ⟨rfl, rfl, rfl, rfl⟩

theorem send_cur (w : Wm) : (send w).cur = w.cur := (send_frame w).1

theorem send_maxEv (w : Wm) : (send w).maxEv = w.maxEv := (send_frame w).2.1

theorem send_maxOOO (w : Wm) : (send w).maxOOO = w.maxOOO := (send_frame w).2.2.1

theorem send_chan (w : Wm) (hc : ∀ y ∈ w.chan, leOpt y w.cur) : ∀ y ∈ (send w).chan, leOpt y (send w).cur := by
  intro y hy
  rw [send_cur]
  rcases send_eq w with h | ⟨c, hcur, h⟩ <;> rw [h] at hy
  · exact hc y hy
  · rcases List.mem_append.mp hy with h1 | h1
    · exact hc y h1
    · exact leOpt_self (by rw [hcur, List.mem_singleton.mp h1])

theorem pop_eq (w : Wm) (x : Int) (w' : Wm) (hp : pop w = some (x, w')) :
    ∃ rest, w.chan = x :: rest ∧ w' = { w with chan := rest } := by
  unfold pop at hp
  split at hp
  · cases hp
  · rename_i a rest hc
    cases hp
    exact ⟨rest, hc, rfl⟩

theorem pop_mem (w : Wm) (x : Int) (w' : Wm) (h : pop w = some (x, w')) :
    x ∈ w.chan ∧ w'.cur = w.cur ∧ ∀ y ∈ w'.chan, y ∈ w.chan := by
  obtain ⟨rest, hc, rfl⟩ := pop_eq w x w' h
  rw [hc]
  exact ⟨List.mem_cons_self, rfl, fun y hy => List.mem_cons_of_mem _ hy⟩

theorem not_late_ge (w : Wm) (ts x : Int) (hl : isLate w ts = false) (hx : leOpt x w.cur) : x ≤ ts := by
  obtain ⟨y, hy, hxy⟩ := hx
  unfold isLate at hl
  rw [hy] at hl
  simp only [decide_eq_false_iff_not] at hl
  exact Int.le_trans hxy (Int.not_lt.mp hl)

/-- what one operation of a window model does to the watermark component -/
inductive Move : Wm → Wm → Prop
  | update (w : Wm) (ts now : Int) : Move w (updateEventTime w ts now)
  | tick (w : Wm) (idle : Bool) (now : Int) : Move w (tick w idle now)
  | pop {w w' : Wm} {x : Int} : pop w = some (x, w') → Move w w'
  | stay (w : Wm) : Move w w

theorem Move.mono {w w' : Wm} (h : Move w w') {x : Int} (hx : leOpt x w.cur) : leOpt x w'.cur := by
  cases h with
  | update ts now =>
    fun_cases updateEventTime w ts now
    case case1 => exact hx  -- too far ahead
    case case2 =>
      rw [send_cur]
      fun_cases bumpMax w ts
      case case1 => exact leOpt_raise _ _ _ hx  -- new maximum
      case case2 => exact hx
  | tick idle now =>
    fun_cases Wm.tick w idle now
    case case1 => exact hx  -- no event yet
    case case2 =>
      rw [send_cur]
      exact leOpt_raise _ _ _ hx
  | pop hp =>
    rw [(pop_mem _ _ _ hp).2.1]
    exact hx
  | stay => exact hx

theorem Move.chan {w w' : Wm} (h : Move w w') (hc : ∀ y ∈ w.chan, leOpt y w.cur) : ∀ y ∈ w'.chan, leOpt y w'.cur := by
  cases h with
  | update ts now =>
    fun_cases updateEventTime w ts now
    case case1 => exact hc  -- too far ahead
    case case2 =>
      apply send_chan
      fun_cases bumpMax w ts
      case case1 => exact fun y hy => leOpt_raise _ _ _ (hc y hy)  -- new maximum
      case case2 => exact hc
  | tick idle now =>
    fun_cases Wm.tick w idle now
    case case1 => exact hc  -- no event yet
    case case2 => exact send_chan _ fun y hy => leOpt_raise _ _ _ (hc y hy)
  | pop hp =>
    obtain ⟨_, hcur, hsub⟩ := pop_mem _ _ _ hp
    exact fun y hy => hcur ▸ hc y (hsub y hy)
  | stay => exact hc

/-- the value the trigger goroutine received last (`t`) and every queued value are at or below the watermark: the
fields `htrig`, `hchan` of `Tumbling.Good`, `Sliding.Good` and `SlidingLate.WmInv` in one -/
def Below (t : Option Int) (w : Wm) : Prop := (∀ x, t = some x → leOpt x w.cur) ∧ ∀ y ∈ w.chan, leOpt y w.cur

theorem Below.move {w w' : Wm} {t : Option Int} (hb : Below t w) (h : Move w w') : Below t w' :=
  ⟨fun x hx => h.mono (hb.1 x hx), h.chan hb.2⟩

theorem Below.pop {w w' : Wm} {x : Int} {t : Option Int} (hb : Below t w) (hp : pop w = some (x, w')) :
    Below (some x) w' :=
  ⟨fun _ h => Option.some.inj h ▸ (Move.pop hp).mono (hb.2 x (pop_mem _ _ _ hp).1), (Move.pop hp).chan hb.2⟩

theorem Below.clear {w : Wm} {t : Option Int} (hb : Below t w) : Below none w := ⟨fun _ h => (nomatch h), hb.2⟩

end Wm
