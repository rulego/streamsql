/-
`IngestSpec` (what the driver evaluates on the implementation's observables) clause by clause as a
proposition; the model's states seen through `observe` satisfy it.
-/
import SsqlVerif.Proofs.IngestFacts
import SsqlVerif.Spec.Ingest
set_option autoImplicit false

namespace IngestSpec

theorem nodupB_iff (l : List Row) : nodupB l = true ↔ l.Nodup := by
  induction l with
  | nil => simp [nodupB]
  | cons x xs ih => simp [nodupB, ih]

theorem increasing_iff (l : List Nat) : increasing l = true ↔ l.Pairwise (· < ·) := by
  induction l with
  | nil => simp [increasing]
  | cons a rest ih =>
    cases rest with
    | nil => simp [increasing]
    | cons b r =>
      rw [increasing, Bool.and_eq_true, ih, decide_eq_true_eq, List.pairwise_cons (l := b :: r)]
      refine and_congr_left fun h => ⟨fun hab x hx => ?_, fun h' => h' b (by simp)⟩
      rcases List.mem_cons.mp hx with rfl | hx
      · exact hab
      · exact Nat.lt_trans hab ((List.pairwise_cons.mp h).1 x hx)

theorem onceOnly_iff (o : Obs) : onceOnly o = true ↔ o.procs.Nodup ∧ ∀ r ∈ o.procs, r ∈ o.calls := by
  simp [onceOnly, subsetB, nodupB_iff]

theorem ordered_iff (l : List Row) : ordered l = true ↔ ∀ r ∈ l, (seqsOf r.1 l).Pairwise (· < ·) := by
  simp [ordered, increasing_iff]

theorem counted_iff (o : Obs) : counted o = true ↔
    o.input = o.calls.length ∧ o.procs.length + o.dropped + o.len ≤ o.calls.length := by
  simp [counted]

theorem accounted_iff (o : Obs) : accounted o = true ↔
    (o.stopped = false → o.rets.length ≤ o.procs.length + o.dropped + o.len) := by
  cases h : o.stopped <;> simp [accounted, h]

theorem conserved_iff (o : Obs) : conserved o = true ↔
    (o.stopped = false → o.rets.length = o.calls.length → o.len = 0 →
      o.procs.length + o.dropped = o.calls.length) := by
  cases h : o.stopped <;> simp [conserved, h, Decidable.imp_iff_not_or, or_assoc]

theorem blockNeverDrops_iff (k : Kfg) (o : Obs) : blockNeverDrops k o = true ↔
    (k.block = true → k.timeout = false → o.dropped = 0) := by
  cases hb : k.block <;> cases ht : k.timeout <;> simp [blockNeverDrops, hb, ht]

theorem capBounded_iff (k : Kfg) (o : Obs) : capBounded k o = true ↔
    (k.maxCap ≠ 0 → o.cap ≤ max k.maxCap k.cap0) ∧ (o.stopped = false → k.cap0 ≤ o.cap) := by
  cases h : o.stopped <;> simp [capBounded, h, Decidable.imp_iff_not_or]

theorem holds_iff (k : Kfg) (o : Obs) : holds k o = true ↔
    onceOnly o = true ∧ ordered o.procs = true ∧ counted o = true ∧ accounted o = true ∧
      conserved o = true ∧ blockNeverDrops k o = true ∧ capBounded k o = true := by
  simp [holds, clauses]

end IngestSpec

namespace Ingest

def pairOf (r : Row) : IngestSpec.Row := (r.prod, r.seq)

def kfgOf (c : Cfg) : IngestSpec.Kfg :=
  { block := c.strat == .block, timeout := c.timeout, cap0 := c.cap0, maxCap := c.maxCap }

/-- what an outside observer sees of a model state; `rets`: a settled row is one whose Emit has returned -/
def observe (s : State) : IngestSpec.Obs :=
  { calls := (entered s).map pairOf,
    rets := (s.processed ++ s.dropped ++ s.exits ++ s.chans.flatMap (·.buf)).map pairOf,
    procs := s.processed.map pairOf,
    input := s.input, dropped := s.dropped.length, len := curLen s, cap := curCap s, stopped := s.stopped }

theorem pairOf_inj (a b : Row) (h : pairOf a = pairOf b) : a = b :=
  congrArg (fun x : IngestSpec.Row => (⟨x.1, x.2⟩ : Row)) h

theorem seqsOf_map (p : Nat) (l : List Row) : IngestSpec.seqsOf p (l.map pairOf) = seqsOf p l := by
  simp [IngestSpec.seqsOf, seqsOf, List.filter_map, Function.comp_def, pairOf]

theorem nodup_map_pairOf (l : List Row) (h : l.Nodup) : (l.map pairOf).Nodup :=
  List.pairwise_map.mpr (h.imp fun hne e => hne (pairOf_inj _ _ e))

/-- `hmig`: during a migration rows sit in two channels while `data_chan_len` shows the current one only -/
theorem holds_observe {c : Cfg} {s : State} (hinv : Inv c s) (hci : CI s) (hord : OrdInv s)
    (hmig : s.mig = none) : IngestSpec.holds (kfgOf c) (observe s) = true := by
  rw [IngestSpec.holds_iff, IngestSpec.onceOnly_iff, IngestSpec.ordered_iff, IngestSpec.counted_iff,
    IngestSpec.accounted_iff, IngestSpec.conserved_iff, IngestSpec.blockNeverDrops_iff, IngestSpec.capBounded_iff]
  simp only [observe, kfgOf, List.length_map]
  refine ⟨⟨nodup_map_pairOf _ (processed_nodup hinv hci), fun r hr => ?_⟩, fun r _ => ?_,
    ⟨hci.input, hci.visible_le⟩, fun hst => Nat.le_of_eq (length_settled_running hinv hst hmig),
    fun hst h1 h2 => ?_, fun hb ht => ?_,
    fun hm => curCap_le_max hinv (Nat.pos_of_ne_zero hm), fun hst => cap0_le_curCap hinv hst hmig⟩
  · -- once-only: processed ⊆ calls
    obtain ⟨x, hx, rfl⟩ := List.mem_map.mp hr
    exact List.mem_map_of_mem (hci.processed_sub x hx)
  · -- order
    rw [seqsOf_map]
    exact processed_sorted hord r.1
  · -- conserved
    rw [← h1]
    exact ((length_settled_running hinv hst hmig).trans (h2 ▸ rfl)).symm
  · -- block never drops
    rw [hinv.core.noDrop (by simpa using hb) ht]
    rfl

end Ingest
