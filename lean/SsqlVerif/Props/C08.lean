/-
C08 — Sliding windows report each slide-aligned interval with exactly its rows.
Quantified over every size/slide pair (slide dividing size or not, slide = size, slide > size), every
MAXOUTOFORDERNESS and every op sequence (all arrival orders and interleavings of Add, ticker, watermark pop and
single trigger-loop iterations); event time.  The theorems about `Sliding.run` are for ALLOWEDLATENESS = 0; the
two about `SlidingLate.stepAdd` for any allowance.
-/
import SsqlVerif.Proofs.SlidingHist
import SsqlVerif.Proofs.SlidingLate
set_option autoImplicit false

namespace C08
open Tumbling (Row Emission inSlot alignDown leOpt)
open Sliding

/-- op sequences of the quantifier: timestamps are post-epoch (Go's alignment truncates) -/
def OpsOk (ops : List Op) : Prop := ∀ op ∈ ops, OpOk op

/-- **Interval shape and exact contents.** Every delivered result is the first firing of an
interval `[s, s+size)` with `s` a multiple of the slide; it is non-empty and its rows are exactly
the rows accepted up to that moment (a prefix of the accepted log) whose timestamp is inside. -/
theorem emission_exact (size slide ooo : Int) (hs : 0 < size) (hl : 0 < slide) (ops : List Op) (hok : OpsOk ops) :
    ∀ e ∈ (run (init size slide ooo) ops).2,
      e.kind = .first ∧ e.stop = e.start + size ∧ slide ∣ e.start ∧ e.rows ≠ [] ∧
      ∃ pre, pre <+: (run (init size slide ooo) ops).1.acc ∧ e.rows = pre.filter (inSlot size e.start) := by
  intro e he
  have h := (goodH_reach size slide ooo hs hl ops hok).2.hshape e he
  unfold EmOk at h
  rw [(run_frame _ ops).1, (run_frame _ ops).2] at h
  exact h

/-- **Once, in increasing order.** No interval is reported twice. -/
theorem intervals_strictly_increasing (size slide ooo : Int) (hs : 0 < size) (hl : 0 < slide)
    (ops : List Op) (hok : OpsOk ops) :
    (run (init size slide ooo) ops).2.Pairwise (fun a b => a.start < b.start) :=
  (goodH_reach size slide ooo hs hl ops hok).2.hincr

/-- **Eviction is safe.** In every reachable state the buffered rows at or after the current slot
are exactly the accepted rows at or after it: no row a pending interval could still need has been
evicted — for every size/slide relation. -/
theorem evict_safe (size slide ooo : Int) (hs : 0 < size) (hl : 0 < slide) (ops : List Op) (hok : OpsOk ops)
    (c : Int) (hc : (run (init size slide ooo) ops).1.cur = some c) :
    (run (init size slide ooo) ops).1.data.filter (geCur c) = (run (init size slide ooo) ops).1.acc.filter (geCur c) :=
  (goodH_reach size slide ooo hs hl ops hok).1.hacc c hc

/-- **Every covering interval.** An accepted row appears in the result of every slide-aligned
interval that covers it, lies at or after the slot current at its arrival, and has been passed by
the trigger loop. -/
theorem in_every_passed_cover (size slide ooo : Int) (hs : 0 < size) (hl : 0 < slide) (ops : List Op) (hok : OpsOk ops)
    (x : Row) (cx : Int) (hx : (x, cx) ∈ (run (init size slide ooo) ops).1.accCur)
    (k : Int) (hk : slide ∣ k) (hck : cx ≤ k) (hin : inSlot size k x = true)
    (hpassed : ∀ c, (run (init size slide ooo) ops).1.cur = some c → k < c) :
    ∃ e ∈ (run (init size slide ooo) ops).2, e.start = k ∧ x ∈ e.rows := by
  exact (goodH_reach size slide ooo hs hl ops hok).2.hcover (x, cx) hx k (by rw [(run_frame _ ops).2]; exact hk) hck
    (by rw [(run_frame _ ops).1]; exact hin) hpassed

/-- For an on-time row (not behind the watermark on arrival) in a state whose loop has already
advanced, *every* covering slide-aligned interval lies at or after the current slot — so
`in_every_passed_cover` applies to all of them. -/
theorem ontime_cover_from_arrival (s : SW) (r : Row) (now : Int) (hg : Good s) (hadv : s.advanced = true)
    (hl : lateNow s r now = false) (k : Int) (hk : s.slide ∣ k) (hin : inSlot s.size k r = true) :
    curAfterAdd s r now ≤ k := by
  cases hcur : s.cur with
  | none =>
    have := (hg.hinit hcur).2.2.2
    rw [this] at hadv
    cases hadv
  | some c =>
    have hci : curInit s r = c := by simp [curInit, hcur]
    have hca : curAfterAdd s r now = c := by
      rcases curAfterAdd_cases s r now with h | ⟨hfr, _, _, _⟩
      · rw [h, hci]
      · rw [hfr] at hadv
        cases hadv
    rw [hca]
    have hge := ontime_ge_passed s r now hg c hcur hadv hl
    rcases Int.lt_or_le k c with hlt | hge'
    · exfalso
      have hal : s.slide ∣ (c - s.slide) := Int.dvd_sub (hg.halign c hcur) (Int.dvd_refl _)
      have := Tumbling.lattice_lt_succ k (c - s.slide) s.slide hg.hslide hk hal
        (by rw [Int.sub_add_cancel]; exact hlt)
      have hin' := ((Tumbling.inSlot_iff _ _ _).mp hin).2
      exact absurd (Int.lt_of_lt_of_le hin' (Int.le_trans (Int.add_le_add_right this _) hge)) (Int.lt_irrefl _)
    · exact hge'

theorem earliest_start_before_advance (size slide ooo : Int) (hs : 0 < size) (hl : 0 < slide) (ops : List Op)
    (hok : OpsOk ops) (hfresh : (run (init size slide ooo) ops).1.advanced = false)
    (c : Int) (hc : (run (init size slide ooo) ops).1.cur = some c) :
    ∀ x ∈ (run (init size slide ooo) ops).1.acc, c ≤ x.ts :=
  (goodH_reach size slide ooo hs hl ops hok).1.hlo hfresh c hc

/-- the pass for watermark `w` ends only when the current slot's end is beyond `w` -/
theorem pass_done (s : SW) (w c : Int) (ht : s.trigW = some w) (hc : s.cur = some c)
    (hdone : (stepIter s).1.trigW = none) : w < c + s.size := by
  unfold stepIter at hdone
  rw [ht, hc] at hdone
  simp only at hdone
  by_cases h : c + s.size ≤ w
  · rw [if_pos h] at hdone
    unfold fireOrSkip at hdone
    split at hdone <;> simp [ht] at hdone
  · exact Int.not_le.mp h

/-- The model with allowance (`SlidingLate`, the one the test driver runs) coincides, for ALLOWEDLATENESS = 0,
with the base model the theorems about `run` are about: same state, same results. -/
theorem late_extension_coincides (size slide ooo : Int) (ops : List Op) :
    (SlidingLate.run (SlidingLate.init size slide ooo 0) ops).1.base = (run (init size slide ooo) ops).1 ∧
    (SlidingLate.run (SlidingLate.init size slide ooo 0) ops).2 = (run (init size slide ooo) ops).2 :=
  SlidingLate.run_l0 (SlidingLate.init size slide ooo 0) ops ⟨rfl, rfl⟩

/-- **A late row that a fired interval took in stays buffered** (ALLOWEDLATENESS > 0): intervals overlap, so the row may
also belong to pending intervals; whatever re-delivered it, the Add leaves it in the buffer the pending intervals are cut
from. -/
theorem redelivered_row_stays_buffered (s : SlidingLate.SWL) (r : Tumbling.Row) (now : Int)
    (h : (SlidingLate.lateTargets s r now).isEmpty = false) :
    r ∈ (SlidingLate.stepAdd s r now).1.base.data := by
  show r ∈ (SlidingLate.addBase s r now).data
  unfold SlidingLate.addBase
  rw [h, Bool.false_or]
  by_cases hk : Sliding.kept s.base r now = true
  · simp [hk, Sliding.stepAdd]
  · simp [hk]

/-- A late row inside the current, not yet fired interval stays buffered, with or without an allowance. -/
theorem late_row_in_current_slot_stays_buffered (s : SlidingLate.SWL) (r : Tumbling.Row) (now : Int)
    (h : Tumbling.inSlot s.base.size (Sliding.curInit s.base r) r = true) :
    r ∈ (SlidingLate.stepAdd s r now).1.base.data := by
  show r ∈ (SlidingLate.addBase s r now).data
  have hk : Sliding.kept s.base r now = true := by simp [Sliding.kept, h]
  unfold SlidingLate.addBase
  simp [hk, Sliding.stepAdd]

/-! ### non-vacuity: slide > size, slide ∤ size and an early on-time row -/
def demoOps : List Op :=
  [.add ⟨1, 10500⟩ 1000000, .add ⟨2, 9700⟩ 1000000, .add ⟨3, 10600⟩ 1000000, .add ⟨4, 20000⟩ 1000000,
   .pop, .iter, .pop, .iter, .pop, .iter, .iter, .iter, .iter, .iter, .iter, .iter, .iter, .iter, .iter]

example : OpsOk demoOps := by unfold OpsOk; decide +kernel
example : ((run (init 2000 1000 2000) demoOps).2.map (fun e => (e.start, e.rows.map (·.id))))
    = [(9000, [1, 2, 3]), (10000, [1, 3])] := by decide +kernel
example : ((run (init 700 1000 2000) demoOps).2.map (fun e => (e.start, e.rows.map (·.id))))
    = [(10000, [1, 3])] := by decide +kernel

end C08
