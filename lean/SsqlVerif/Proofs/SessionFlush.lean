/-
Manual flush of a session window (`Trigger()`, public as `Streamsql.TriggerWindow`): every open session is
delivered as it stands and forgotten.
-/
import SsqlVerif.Proofs.SessionRun
set_option autoImplicit false

namespace Session

theorem flushAll_sessions (w : SWin) : (flushAll w).1.sessions = [] := rfl

theorem flushAll_wm (w : SWin) : (flushAll w).1.wm = w.wm ∧ (flushAll w).1.trig = w.trig := ⟨rfl, rfl⟩

theorem flushAll_rows (w : SWin) (x : Row) :
    (firstRows (flushAll w).2).count x = (openRows w).count x := by
  rw [flushAll_emits, firstRows_map_emit]
  exact ((perm_sortSess w.sessions).flatMap_right _).count_eq x

theorem flushAll_emissions (w : SWin) (h : Inv w) :
    ∀ e ∈ (flushAll w).2, e.late = false ∧ EmOk w.timeout e ∧ Chain w.timeout e.start e.rows := by
  intro e he
  rw [flushAll_emits, List.mem_map] at he
  obtain ⟨s, hs, rfl⟩ := he
  rw [mem_sortSess] at hs
  exact ⟨rfl, emOk_emit (h.hok s hs), h.hchain s hs⟩

theorem flushAll_inv (w : SWin) (h : Inv w) : Inv (flushAll w).1 :=
  { hok := fun _ hs => absurd hs List.not_mem_nil
    hchain := fun _ hs => absurd hs List.not_mem_nil
    hsep := .nil
    hchan := h.hchan
    htime := h.htime }

end Session
