/-
Conservation of the accepted rows for every ALLOWEDLATENESS (C01): no buffered row lies inside a triggered window,
so neither a late update nor the purge at the end of an allowance (`closeExpiredWindows`) touches one.
-/
import SsqlVerif.Proofs.TumblingLate
set_option autoImplicit false

namespace Tumbling
open Wm

theorem run_conserve_late (s : TW) (ops : List Op) (es : List Emission) (x : Row) (hg : Good s) (hh : Hist s es)
    (hok : ∀ op ∈ ops, OpOk op) :
    (run s ops).1.data.count x + (firstRowsOf (run s ops).2).count x
      = s.data.count x + (acceptedRows s ops).count x := by
  induction ops generalizing s es with
  | nil => rfl
  | cons op ops ih =>
    have h1 := step_conserve s op x (hh.apart hg)
    have h2 := ih (step s op).1 (es ++ (step s op).2) (good_step s op hg (hok op List.mem_cons_self))
      (hist_step s op es hg hh) (fun o ho => hok o (List.mem_cons_of_mem _ ho))
    show _ + (firstRowsOf (_ ++ _)).count x = _ + List.count x (_ ++ _)
    rw [firstRowsOf_append, List.count_append, List.count_append]
    exact count_glue h1 h2

end Tumbling
