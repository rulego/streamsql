/-
The processing-time tumbling window (`Trigger()` on the timer): op language, clock hypothesis, conservation (C01).
-/
import SsqlVerif.Proofs.Tumbling
set_option autoImplicit false

namespace Tumbling

inductive PtOp where
  | add (r : Row)
  | tick
  deriving Repr

def ptStep (s : TW) : PtOp → TW × List Emission
  | .add r => (ptAdd s r, [])
  | .tick => ptTick s

def ptRun (s : TW) : List PtOp → TW × List Emission
  | [] => (s, [])
  | op :: ops => ((ptRun (ptStep s op).1 ops).1, (ptStep s op).2 ++ (ptRun (ptStep s op).1 ops).2)

/-- clock hypothesis in state form: a row never carries a time before the current slot
(the wall clock does not go back and the k-th tick happens at or after firstAdd + k·size) -/
def PtOk (s : TW) : PtOp → Prop
  | .add r => 0 ≤ r.ts ∧ ∀ c, s.cur = some c → c ≤ r.ts
  | .tick => True

def PtAllOk (s : TW) : List PtOp → Prop
  | [] => True
  | op :: ops => PtOk s op ∧ PtAllOk (ptStep s op).1 ops

/-- the part of `Good` the timer path needs -/
structure PtGood (s : TW) : Prop where
  hsize : 0 < s.size
  hinit : s.cur = none → s.data = []
  hdata : ∀ c, s.cur = some c → ∀ r ∈ s.data, c ≤ r.ts

theorem ptTick_none (s : TW) (hc : s.cur = none) : ptTick s = (s, []) := by
  unfold ptTick
  rw [hc]

theorem ptTick_eq (s : TW) (c : Int) (hc : s.cur = some c) :
    (ptTick s).1 = { s with cur := some (c + s.size), data := s.data.filter (fun r => decide (c + s.size ≤ r.ts)) } ∧
    rowsOf (ptTick s).2 = slotRows s c ∧
    ∀ e ∈ (ptTick s).2, e = { kind := .first, start := c, stop := c + s.size, rows := slotRows s c } := by
  unfold ptTick
  rw [hc]
  dsimp only
  by_cases he : (slotRows s c).isEmpty = true
  · rw [if_pos he]
    exact ⟨rfl, (List.isEmpty_iff.mp he).symm, fun _ h => (nomatch h)⟩
  · rw [if_neg he]
    exact ⟨rfl, List.append_nil _, fun _ h => List.mem_singleton.mp h⟩

theorem ptGood_step (s : TW) (op : PtOp) (hg : PtGood s) (hok : PtOk s op) : PtGood (ptStep s op).1 := by
  cases op with
  | add r =>
    obtain ⟨ht, hle⟩ := hok
    refine ⟨hg.hsize, fun h => (nomatch h), fun c hcur x hx => ?_⟩
    cases hcur
    show curInit s r ≤ x.ts
    cases h0 : s.cur with
    | none =>
      rcases List.mem_append.mp hx with h | h
      · rw [hg.hinit h0] at h
        cases h
      · rw [List.mem_singleton.mp h]
        simp only [curInit, h0]
        exact alignDown_le _ _ ht hg.hsize
    | some c0 =>
      simp only [curInit, h0]
      rcases List.mem_append.mp hx with h | h
      · exact hg.hdata c0 h0 x h
      · rw [List.mem_singleton.mp h]
        exact hle c0 h0
  | tick =>
    show PtGood (ptTick s).1
    cases hc : s.cur with
    | none =>
      rw [ptTick_none s hc]
      exact hg
    | some c =>
      rw [(ptTick_eq s c hc).1]
      exact ⟨hg.hsize, fun h => (nomatch h), fun c' hc' x hx => by
        cases hc'
        exact of_decide_eq_true (List.mem_filter.mp hx).2⟩

theorem ptTick_conserve (s : TW) (x : Row) (hg : PtGood s) :
    (ptTick s).1.data.count x + (rowsOf (ptTick s).2).count x = s.data.count x := by
  cases hc : s.cur with
  | none =>
    rw [ptTick_none s hc]
    rfl
  | some c =>
    obtain ⟨h1, h2, _⟩ := ptTick_eq s c hc
    -- the rows kept are those outside the slot, since none precedes it
    have hrest : s.data.filter (fun r => decide (c + s.size ≤ r.ts)) = restRows s c :=
      List.filter_congr fun r hr => by
        have h1 := hg.hdata c hc r hr
        cases hin : inSlot s.size c r with
        | true => simpa [hin] using ((inSlot_iff _ _ _).mp hin).2
        | false => simpa [hin] using inSlot_false_ge _ _ _ h1 hin
    rw [h1, h2, ← count_filter_split (inSlot s.size c) x s.data]
    show (s.data.filter _).count x + _ = _
    rw [hrest]
    exact Nat.add_comm _ _

theorem ptRun_conserve (s : TW) (ops : List PtOp) (x : Row) (hg : PtGood s) (hok : PtAllOk s ops) :
    (ptRun s ops).1.data.count x + (rowsOf (ptRun s ops).2).count x
      = s.data.count x + (ops.filterMap (fun o => match o with | .add r => some r | .tick => none)).count x := by
  induction ops generalizing s with
  | nil => rfl
  | cons op ops ih =>
    obtain ⟨hok1, hok2⟩ := hok
    have h2 := ih (ptStep s op).1 (ptGood_step s op hg hok1) hok2
    cases op with
    | add r =>
      show _ + (rowsOf ([] ++ _)).count x = _ + List.count x ([r] ++ _)
      rw [rowsOf_append, List.count_append, List.count_append]
      exact count_glue ((Nat.add_zero _).trans List.count_append) h2
    | tick =>
      show _ + (rowsOf (_ ++ _)).count x = _ + List.count x ([] ++ _)
      rw [rowsOf_append, List.count_append, List.count_append]
      exact count_glue ((ptTick_conserve s x hg).trans (Nat.add_zero _).symm) h2

theorem ptTick_rows (s : TW) (e : Emission) (he : e ∈ (ptTick s).2) :
    ∃ c, s.cur = some c ∧ e.start = c ∧ e.stop = c + s.size ∧ e.rows = s.data.filter (inSlot s.size c) := by
  cases hc : s.cur with
  | none =>
    rw [ptTick_none s hc] at he
    cases he
  | some c =>
    rw [(ptTick_eq s c hc).2.2 e he]
    exact ⟨c, rfl, rfl, rfl, rfl⟩

end Tumbling
