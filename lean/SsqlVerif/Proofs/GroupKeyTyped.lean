/-
Rendering of typed key values is injective inside one column type (C04, C09).
-/
import SsqlVerif.Proofs.GroupKey
import SsqlVerif.Spec.GroupBy
set_option autoImplicit false

namespace GroupKey
open GroupBy

theorem natStr_injective (a b : Nat) (h : natStr a = natStr b) : a = b := by
  simpa only [natStr, Nat.ofDigitChars_ten_toDigits] using congrArg (Nat.ofDigitChars 10 · 0) h

theorem natStr_no_minus (a : Nat) (r : Str) : natStr a ≠ '-' :: r := fun h =>
  absurd (toDigits_isDigit a '-' (show '-' ∈ natStr a from h ▸ List.mem_cons_self)) (by decide)

theorem intStr_injective (a b : Int) (h : intStr a = intStr b) : a = b :=
  match a, b, h with
  | .ofNat m, .ofNat n, h => congrArg Int.ofNat (natStr_injective m n h)
  | .negSucc _, .negSucc _, h =>
    congrArg Int.negSucc (Nat.succ.inj (natStr_injective _ _ (List.cons.inj h).2))
  | .ofNat m, .negSucc _, h => absurd h (natStr_no_minus m _)
  | .negSucc _, .ofNat n, h => absurd h.symm (natStr_no_minus n _)

/-- `renderCast` (`true`) and `renderV` (`false`) in one: they differ only on floats -/
def renderWith (cast : Bool) : Val → Option Str
  | .flt _ rf rg => some (if cast then rf else rg)
  | v => renderV v

theorem renderCast_eq : renderCast = renderWith true := by
  funext v
  cases v <;> rfl

theorem renderV_eq : renderV = renderWith false := by
  funext v
  cases v <;> rfl

theorem norm_of_renderWith_none (c : Bool) (w : Val) (h : renderWith c w = none) : w.norm = .null := by
  cases w with
  | null | missing => rfl
  | _ => injection h

/-- Along `sameType`: against NULL both texts are missing, inside one type the text determines the
value (floats: hypothesis `hf`), two types are excluded. -/
theorem renderWith_injective (c : Bool) (v w : Val) (ht : sameType v w = true) (hf : fltOk v w)
    (h : renderWith c v = renderWith c w) : v.norm = w.norm := by
  revert ht
  fun_cases sameType v w with
  | case1 w => exact fun _ => (norm_of_renderWith_none c w h.symm).symm -- NULL left
  | case2 w => exact fun _ => (norm_of_renderWith_none c w h.symm).symm -- missing left
  | case3 v => exact fun _ => norm_of_renderWith_none c v h -- NULL right
  | case4 v => exact fun _ => norm_of_renderWith_none c v h -- missing right
  | case5 s s' => exact fun _ => congrArg Val.str (Option.some.inj h)
  | case6 i j => exact fun _ => congrArg Val.int (intStr_injective i j (Option.some.inj h))
  | case7 a b => exact fun _ => congrArg Val.bool (boolStr_injective a b (Option.some.inj h))
  | case8 b rf rg b' rf' rg' => -- two floats
    intro _
    have hb : b = b' := by
      cases c
      · exact hf.2.2 (Option.some.inj h)
      · exact hf.1.2 (Option.some.inj h)
    rw [hb, hf.1.1 hb, hf.2.1 hb]
  | case9 => exact fun ht => nomatch ht -- two types

theorem renderCast_injective (v w : Val) (ht : sameType v w = true) (hf : fltOk v w)
    (h : renderCast v = renderCast w) : v.norm = w.norm :=
  renderWith_injective true v w ht hf (renderCast_eq ▸ h)

theorem renderV_injective (v w : Val) (ht : sameType v w = true) (hf : fltOk v w)
    (h : renderV v = renderV w) : v.norm = w.norm :=
  renderWith_injective false v w ht hf (renderV_eq ▸ h)

theorem map_render_injective (f : Val → Option Str)
    (hfinj : ∀ v w, sameType v w = true → fltOk v w → f v = f w → v.norm = w.norm)
    (t t' : List Val) (ht : sameTypeT t t' = true) (hf : fltOkT t t') (h : t.map f = t'.map f) :
    normTuple t = normTuple t' := by
  fun_induction sameTypeT t t' with
  | case1 => rfl
  | case2 v vs w ws ih =>
    rw [Bool.and_eq_true] at ht
    obtain ⟨h1, h2⟩ := List.cons.inj h
    exact List.cons_eq_cons.2 ⟨hfinj v w ht.1 hf.1 h1, ih ht.2 hf.2 h2⟩
  | case3 => exact nomatch ht

theorem sameTypeT_length (t t' : List Val) (h : sameTypeT t t' = true) : t.length = t'.length := by
  fun_induction sameTypeT t t' with
  | case1 => rfl
  | case2 v vs w ws ih =>
    rw [Bool.and_eq_true] at h
    exact congrArg Nat.succ (ih h.2)
  | case3 => exact nomatch h

theorem renderCast_norm (v : Val) : renderCast v.norm = renderCast v := by cases v <;> rfl
theorem renderV_norm (v : Val) : renderV v.norm = renderV v := by cases v <;> rfl

theorem encWindow_map_injective (noKeys : Str) (f : Val → Option Str)
    (hfinj : ∀ v w, sameType v w = true → fltOk v w → f v = f w → v.norm = w.norm)
    (t t' : List Val) (ht : sameTypeT t t' = true) (hf : fltOkT t t')
    (h : encWindow noKeys (t.map f) = encWindow noKeys (t'.map f)) : normTuple t = normTuple t' :=
  map_render_injective f hfinj t t' ht hf <| encWindow_injective noKeys _ _
    (by rw [List.length_map, List.length_map, sameTypeT_length t t' ht]) h

end GroupKey
