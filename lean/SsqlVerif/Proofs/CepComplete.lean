/-
C15, one partition, completeness (greedy mode): the engine explores every run the rows admit (`Reached`), keeps the
longest accepting one per start in `pending`, and emits a start only when nothing with an earlier or equal start can
still grow; so every reported match is `Good` with respect to the final rows.
-/
import SsqlVerif.Proofs.CepRun
import SsqlVerif.Proofs.CepClosure
set_option autoImplicit false

namespace Cep
open Spec
section
variable {ρ : Type}

/-- `Reached c H r`, "the rows `H` admit `r`": `r` is what `advance` produces along the rows of `H` from some start
position, with the WITHIN / row-limit check the engine applies before each further row -/
inductive Reached (c : Cfg ρ) (H : List ρ) : Run ρ → Prop
  | first {s : Nat} {row : ρ} {r : Run ρ} : 1 ≤ s → H[s - 1]? = some row →
      r ∈ advance c (seedRun c (c.ts row) s) row → Reached c H r
  | next {r r' : Run ρ} {row : ρ} : Reached c H r → H[r.startSeq - 1 + r.hist.length]? = some row →
      live c (c.ts row) r = true → r' ∈ advance c r row → Reached c H r'

theorem advance_nonempty_not_complete {c : Cfg ρ} {r s : Run ρ} {row : ρ} (h : s ∈ advance c r row) :
    runComplete c r = false := by
  obtain ⟨ao, hao, _⟩ := mem_advance.1 h
  unfold runComplete isComplete
  rw [List.isEmpty_eq_false_iff.2 (List.ne_nil_of_mem hao), Bool.and_false]

theorem Reached.facts {c : Cfg ρ} {H : List ρ} {r : Run ρ} (h : Reached c H r) :
    1 ≤ r.startSeq ∧ r.hist ≠ [] ∧ r.startSeq - 1 + r.hist.length ≤ H.length := by
  induction h with
  | @first s row r hs hrow hadv =>
    obtain ⟨h1, h3⟩ := advance_seed_length hadv
    rw [← List.length_pos_iff, h1, h3]
    exact ⟨hs, Nat.one_pos, (List.getElem?_eq_some_iff.1 hrow).1⟩
  | @next r r' row _ hrow _ hadv ih =>
    obtain ⟨h1, h3⟩ := advance_length hadv
    rw [← List.length_pos_iff, h1, h3]
    exact ⟨ih.1, Nat.succ_pos _, (List.getElem?_eq_some_iff.1 hrow).1⟩

theorem Reached.mono {c : Cfg ρ} {H : List ρ} {r : Run ρ} (h : Reached c H r) (x : List ρ) : Reached c (H ++ x) r := by
  induction h with
  | first hs hrow hadv =>
    exact .first hs (by rwa [List.getElem?_append_left (List.getElem?_eq_some_iff.1 hrow).1]) hadv
  | next _ hrow hl hadv ih =>
    exact .next ih (by rwa [List.getElem?_append_left (List.getElem?_eq_some_iff.1 hrow).1]) hl hadv

theorem Reached.restrict {c : Cfg ρ} {H x : List ρ} {r : Run ρ} (h : Reached c (H ++ x) r)
    (hb : r.startSeq - 1 + r.hist.length ≤ H.length) : Reached c H r := by
  induction h with
  | @first s row r hs hrow hadv =>
    obtain ⟨h1, h3⟩ := advance_seed_length hadv
    rw [h1, h3] at hb
    exact .first hs (by rwa [List.getElem?_append_left hb] at hrow) hadv
  | @next r r' row hr hrow hl hadv ih =>
    obtain ⟨h1, h3⟩ := advance_length hadv
    rw [h1, h3] at hb
    have hlt : r.startSeq - 1 + r.hist.length < H.length := hb
    exact .next (ih (Nat.le_of_lt hlt)) (by rwa [List.getElem?_append_left hlt] at hrow) hl hadv

theorem Reached.tight_ancestor {c : Cfg ρ} {H x : List ρ} {r : Run ρ} (h : Reached c (H ++ x) r)
    (hs : r.startSeq ≤ H.length) (hb : H.length < r.startSeq - 1 + r.hist.length) :
    ∃ r0, Reached c H r0 ∧ Tight H r0 ∧ r0.startSeq = r.startSeq ∧ runComplete c r0 = false := by
  induction h with
  | @first s row r hs' hrow hadv =>
    obtain ⟨h1, h3⟩ := advance_seed_length hadv
    rw [h1, h3, Nat.sub_add_cancel hs'] at hb
    exact absurd (h1 ▸ hs) (Nat.not_le_of_lt hb)
  | @next r r' row hr hrow hl hadv ih =>
    obtain ⟨h1, h3⟩ := advance_length hadv
    rw [h1, h3] at hb
    rw [h1] at hs ⊢
    by_cases ht : r.startSeq - 1 + r.hist.length = H.length
    · exact ⟨r, hr.restrict (Nat.le_of_eq ht), ht, rfl, advance_nonempty_not_complete hadv⟩
    · exact ih hs (Nat.lt_of_le_of_ne (Nat.le_of_lt_succ hb) (Ne.symm ht))

/-- every admitted run that has consumed all rows, can still grow and starts at or after `ns` is live -/
def RCov (c : Cfg ρ) (H : List ρ) (ns : Nat) (surv : List (Run ρ)) : Prop :=
  ∀ r, Reached c H r → Tight H r → ns ≤ r.startSeq → runComplete c r = false → r ∈ surv

/-- every admitted accepting run starting at or after `ns` is dominated by a pending run of its start -/
def PCov (c : Cfg ρ) (H : List ρ) (ns : Nat) (pend : List (Run ρ)) : Prop :=
  ∀ r, Reached c H r → runAccepting c r = true → ns ≤ r.startSeq → Dominated pend r

/-- every run the final rows `Hf` admit that starts within the rows `H` seen so far, at or after `ns`, and reaches beyond
them has a live run of its start -/
def Ahead (c : Cfg ρ) (H Hf : List ρ) (ns : Nat) (surv : List (Run ρ)) : Prop :=
  ∀ r, Reached c Hf r → ns ≤ r.startSeq → r.startSeq ≤ H.length → H.length < r.startSeq - 1 + r.hist.length →
    ∃ r0 ∈ surv, r0.startSeq = r.startSeq

theorem Ahead.of_length_le (c : Cfg ρ) {H Hf : List ρ} (h : Hf.length ≤ H.length) (ns : Nat) (surv : List (Run ρ)) :
    Ahead c H Hf ns surv :=
  fun _ hr _ _ hb => absurd (Nat.le_trans hr.facts.2.2 h) (Nat.not_le_of_lt hb)

theorem RCov.ahead {c : Cfg ρ} {H : List ρ} {ns : Nat} {surv : List (Run ρ)} (h : RCov c H ns surv) (x : List ρ) :
    Ahead c H (H ++ x) ns surv := fun r hr hge hs hb => by
  obtain ⟨r0, h0, ht, hs0, hc⟩ := hr.tight_ancestor hs hb
  exact ⟨r0, h r0 h0 ht (hs0 ▸ hge) hc, hs0⟩

/-- a reported match is the right one for the stretch `[ns, skipTo)` it decides, with respect to the
final rows `Hf`: no admitted accepting run starts earlier in the stretch, none from its start is longer -/
def Good (c : Cfg ρ) (Hf : List ρ) (ns : Nat) (m : Match ρ) : Prop :=
  ∀ r, Reached c Hf r → runAccepting c r = true → ns ≤ r.startSeq → r.startSeq < skipToM c m.startSeq m.rows →
    m.startSeq ≤ r.startSeq ∧ (r.startSeq = m.startSeq → r.hist.length ≤ m.rows.length)

/-- `Chain` without the numbering, every match `Good` from the resumption point of its predecessor (which is why this is
not `Chain ∧ ∀ m, Good …`) -/
inductive GChain (c : Cfg ρ) (Hf : List ρ) : Nat → List (Match ρ) → Nat → Prop
  | nil (ns : Nat) : GChain c Hf ns [] ns
  | cons {ns ns' : Nat} {m : Match ρ} {ms : List (Match ρ)} : Good c Hf ns m → m.rows ≠ [] → ns ≤ m.startSeq →
      GChain c Hf (skipToM c m.startSeq m.rows) ms ns' → GChain c Hf ns (m :: ms) ns'

theorem GChain.append {c : Cfg ρ} {Hf : List ρ} {a b d : Nat} {xs ys : List (Match ρ)}
    (h1 : GChain c Hf a xs b) (h2 : GChain c Hf b ys d) : GChain c Hf a (xs ++ ys) d := by
  induction h1 with
  | nil => exact h2
  | cons hg hne hle _ ih => exact GChain.cons hg hne hle (ih h2)

theorem GChain.ns_le {c : Cfg ρ} {Hf : List ρ} {a b : Nat} {xs : List (Match ρ)} (h : GChain c Hf a xs b) : a ≤ b := by
  induction h with
  | nil => exact Nat.le_refl _
  | @cons ns ns' m ms hg hne hle _ ih =>
    exact Nat.le_trans hle (Nat.le_trans (Nat.le_of_lt (skipToM_bounds c _ _ hne).1) ih)

theorem GChain.skip_le {c : Cfg ρ} {Hf : List ρ} {a b : Nat} {xs : List (Match ρ)} (h : GChain c Hf a xs b) :
    ∀ m ∈ xs, skipToM c m.startSeq m.rows ≤ b := by
  induction h with
  | nil => exact fun _ hm => nomatch hm
  | cons _ _ _ hrest ih =>
    intro m' hm'
    rcases List.mem_cons.1 hm' with rfl | hm'
    · exact hrest.ns_le
    · exact ih m' hm'

theorem GChain.covers {c : Cfg ρ} {Hf : List ρ} {a b : Nat} {xs : List (Match ρ)} (h : GChain c Hf a xs b) :
    ∀ r, Reached c Hf r → runAccepting c r = true → a ≤ r.startSeq → r.startSeq < b →
      ∃ m ∈ xs, m.startSeq ≤ r.startSeq ∧ r.startSeq < skipToM c m.startSeq m.rows ∧
        (r.startSeq = m.startSeq → r.hist.length ≤ m.rows.length) := by
  induction h with
  | nil => exact fun r _ _ h1 h2 => absurd h2 (Nat.not_lt.2 h1)
  | @cons ns ns' m ms hg hne hle hrest ih =>
    intro r hr hacc h1 h2
    by_cases hlt : r.startSeq < skipToM c m.startSeq m.rows
    · obtain ⟨g1, g2⟩ := hg r hr hacc h1 hlt
      exact ⟨m, List.mem_cons_self .., g1, hlt, g2⟩
    · obtain ⟨m', hm', g⟩ := ih r hr hacc (Nat.le_of_not_lt hlt) h2
      exact ⟨m', List.mem_cons_of_mem _ hm', g⟩

theorem blocked_false {surv : List (Run ρ)} {s : Nat} (h : blocked surv s = false) : ∀ x ∈ surv, s < x.startSeq := by
  intro x hx
  simpa using List.any_eq_false.1 h x hx

/-- what the loop keeps true of its state besides the survivors' coverage -/
structure LoopInv (c : Cfg ρ) (H : List ρ) (s : ES ρ) : Prop where
  cand : ∀ y ∈ s.pending, Cand c H y
  uniq : (s.pending.map (·.startSeq)).Nodup
  pcov : PCov c H s.nextStart s.pending

theorem RCov.emit {c : Cfg ρ} {H : List ρ} {s : ES ρ} {b : Run ρ} (hr : RCov c H s.nextStart s.surv)
    (hle : s.nextStart ≤ skipTo c b) : RCov c H (emitOne c s b).nextStart (emitOne c s b).surv :=
  fun r h1 h2 (h3 : skipTo c b ≤ r.startSeq) h4 =>
    List.mem_filter.2 ⟨hr r h1 h2 (Nat.le_trans hle h3) h4, decide_eq_true h3⟩

theorem LoopInv.emit {c : Cfg ρ} {H : List ρ} {s : ES ρ} {b : Run ρ} (h : LoopInv c H s)
    (hle : s.nextStart ≤ skipTo c b) (hgt : b.startSeq < skipTo c b) : LoopInv c H (emitOne c s b) :=
  { cand := fun y hy => h.cand y ((emitOne_sub c s b).subset hy)
    uniq := ((emitOne_sub c s b).map _).nodup h.uniq
    pcov := fun r h1 h2 (h3 : skipTo c b ≤ r.startSeq) => by
      obtain ⟨y, hy, hys, hyl⟩ := h.pcov r h1 h2 (Nat.le_trans hle h3)
      have hne : y.startSeq ≠ b.startSeq := by omega
      exact ⟨y, List.mem_filter.2 ⟨hy, bne_iff_ne.2 hne⟩, hys, hyl⟩ }

theorem good_of_emit {c : Cfg ρ} {H x : List ρ} {s : ES ρ} {b : Run ρ} (hi : LoopInv c H s)
    (ha : Ahead c H (H ++ x) s.nextStart s.surv) (hm : minStart s.nextStart s.pending = some b)
    (hb : blocked s.surv b.startSeq = false) : Good c (H ++ x) s.nextStart (mkMatch s b) := by
  obtain ⟨hbin, hbge⟩ := minStart_mem hm
  obtain ⟨hok, hne, _⟩ := hi.cand b hbin
  intro r hreach hacc hge hlt
  have hsk : r.startSeq < b.startSeq + b.hist.length := Nat.lt_of_lt_of_le hlt (skipToM_bounds c b.startSeq b.hist hne).2
  by_cases hin : r.startSeq - 1 + r.hist.length ≤ H.length
  · -- `r` lies within the rows seen so far: it is dominated by a pending run, and `minStart` chose the least start
    obtain ⟨y, hy, hys, hyl⟩ := hi.pcov r (hreach.restrict hin) hacc hge
    obtain ⟨b', hb', hle⟩ := minStart_le hy (hys ▸ hge)
    cases hm.symm.trans hb'
    exact ⟨hys ▸ hle, fun he => eq_of_nodup_map hi.uniq hy hbin (hys.trans he) ▸ hyl⟩
  · -- `r` grows beyond them: a live run has its start, and the loop emits only behind every live start
    have := hok.bound
    have := hok.start_pos
    obtain ⟨r0, h0, h0s⟩ := ha r hreach hge (by omega) (Nat.lt_of_not_le hin)
    have hlt0 : b.startSeq < r.startSeq := h0s ▸ blocked_false hb r0 h0
    exact ⟨Nat.le_of_lt hlt0, fun he => absurd he (Nat.ne_of_gt hlt0)⟩

/-- the loop under any invariant `I` of its state that makes every emitted match `Good` -/
theorem emitGreedy_gchain (c : Cfg ρ) (Hf : List ρ) (I : ES ρ → Prop)
    (hI : ∀ s b, I s → minStart s.nextStart s.pending = some b → blocked s.surv b.startSeq = false →
      I (emitOne c s b) ∧ Good c Hf s.nextStart (mkMatch s b) ∧ b.hist ≠ []) (f : Nat) (s : ES ρ) (h : I s) :
    GChain c Hf s.nextStart (emitGreedy c f s).2 (emitGreedy c f s).1.nextStart ∧ I (emitGreedy c f s).1 := by
  fun_induction emitGreedy c f s with
  | case1 s => exact ⟨.nil _, h⟩  -- no fuel
  | case2 f s hm => exact ⟨.nil _, h⟩  -- no start left
  | case3 f s b hm hb => exact ⟨.nil _, h⟩  -- blocked
  | case4 f s b hm hb ih =>  -- `b` emitted
    obtain ⟨h1, hg, hne⟩ := hI s b h hm (Bool.eq_false_iff.2 hb)
    obtain ⟨g, hi⟩ := ih h1
    exact ⟨.cons hg hne (minStart_mem hm).2 (skipTo_eq_skipToM c b ▸ g), hi⟩

theorem LoopInv.step {c : Cfg ρ} {H x : List ρ} {s : ES ρ} {b : Run ρ} (hi : LoopInv c H s)
    (ha : Ahead c H (H ++ x) s.nextStart s.surv) (hm : minStart s.nextStart s.pending = some b)
    (hb : blocked s.surv b.startSeq = false) :
    s.nextStart ≤ skipTo c b ∧ LoopInv c H (emitOne c s b) ∧ Good c (H ++ x) s.nextStart (mkMatch s b) ∧
      b.hist ≠ [] := by
  obtain ⟨hbin, hbge⟩ := minStart_mem hm
  have hne := (hi.cand b hbin).2.1
  have hgt := (skipTo_bounds c b hne).1
  have hle := Nat.le_of_lt (Nat.lt_of_le_of_lt hbge hgt)
  exact ⟨hle, hi.emit hle hgt, good_of_emit hi ha hm hb, hne⟩

/-- `Inv`, every live admitted run is in `runs`, every accepting admitted run at or after `nextStart` is dominated in
`pending` -/
structure Cov (c : Cfg ρ) (H : List ρ) (p : Part ρ) : Prop where
  inv : Inv c H p
  rcov : RCov c H p.nextStart p.runs
  pcov : PCov c H p.nextStart p.pending

theorem Cov.init (c : Cfg ρ) : Cov c [] ({} : Part ρ) :=
  have empty {r : Run ρ} (h : Reached c ([] : List ρ) r) : False :=
    h.facts.2.1 (List.eq_nil_of_length_eq_zero (Nat.le_zero.1 (Nat.le_trans (Nat.le_add_left _ _) h.facts.2.2)))
  { inv := Inv.init c, rcov := fun _ h _ _ _ => (empty h).elim, pcov := fun _ h _ _ => (empty h).elim }

theorem mem_allSucc_of_tight {c : Cfg ρ} {H : List ρ} {p : Part ρ} (h : Cov c H p) (row : ρ) {r : Run ρ}
    (hr : Reached c (H ++ [row]) r) (ht : Tight (H ++ [row]) r) (hge : p.nextStart ≤ r.startSeq) :
    r ∈ allSucc c p row := by
  rw [Tight, List.length_append, List.length_singleton] at ht
  cases hr with
  | @first s row' _ hs hrow hadv =>
    obtain ⟨h1, h3⟩ := advance_seed_length hadv
    rw [h1, h3] at ht
    obtain rfl : s = H.length + 1 := (Nat.sub_add_cancel hs).symm.trans ht
    obtain rfl : row = row' := Option.some.inj (List.getElem?_concat_length.symm.trans hrow)
    refine List.mem_append_right _ ?_
    unfold seedSucc
    rwa [h.inv.seq, if_pos (h1 ▸ hge)]
  | @next q _ row' hq hrow hl hadv =>
    obtain ⟨h1, h3⟩ := advance_length hadv
    rw [h1, h3] at ht
    have hidx : q.startSeq - 1 + q.hist.length = H.length := Nat.succ.inj ht
    obtain rfl : row = row' := Option.some.inj (List.getElem?_concat_length.symm.trans (hidx ▸ hrow))
    have hqin := h.rcov q (hq.restrict (Nat.le_of_eq hidx)) hidx (h1 ▸ hge) (advance_nonempty_not_complete hadv)
    exact List.mem_append_left _ (List.mem_flatMap.2 ⟨q, hqin, by rwa [if_pos hl]⟩)

theorem PCov.ingest {c : Cfg ρ} {H H' : List ρ} {ns : Nat} {pend cs : List (Run ρ)} (hp : PCov c H ns pend)
    (hu : (pend.map (·.startSeq)).Nodup)
    (hnew : ∀ r, Reached c H' r → runAccepting c r = true → ns ≤ r.startSeq → Reached c H r ∨ r ∈ cs) :
    PCov c H' ns (ingest ns pend cs) := by
  intro r hr hacc hge
  have d := (ingest_spec ns pend cs hu).2.2
  rcases hnew r hr hacc hge with h | h
  · exact (hp r h hacc hge).trans fun y hy => d y (Or.inl hy)
  · exact d r (Or.inr ⟨h, hge⟩)

theorem emitGreedy_keeps_cov {c : Cfg ρ} {H : List ρ} (x : List ρ) (f : Nat) {s : ES ρ} (hi : LoopInv c H s)
    (hr : RCov c H s.nextStart s.surv) :
    GChain c (H ++ x) s.nextStart (emitGreedy c f s).2 (emitGreedy c f s).1.nextStart ∧
    RCov c H (emitGreedy c f s).1.nextStart (emitGreedy c f s).1.surv ∧
    PCov c H (emitGreedy c f s).1.nextStart (prunePending (emitGreedy c f s).1).pending := by
  obtain ⟨g, hi', hr'⟩ := emitGreedy_gchain c (H ++ x) (fun s => LoopInv c H s ∧ RCov c H s.nextStart s.surv)
    (fun s b ⟨hi, hr⟩ hm hb =>
      have ⟨hle, hi', hg, hne⟩ := hi.step (hr.ahead x) hm hb
      ⟨⟨hi', hr.emit hle⟩, hg, hne⟩) f s ⟨hi, hr⟩
  refine ⟨g, hr', fun r hr hacc hge => ?_⟩
  obtain ⟨y, hy, hys, hyl⟩ := hi'.pcov r hr hacc hge
  exact ⟨y, List.mem_filter.2 ⟨hy, decide_eq_true (hys ▸ hge)⟩, hys, hyl⟩

/-- `x`: the rows still to come; the reported matches are `Good` with respect to the final rows -/
theorem stepPart_keeps_cov {c : Cfg ρ} {H : List ρ} {p : Part ρ} (hl : c.lazy = false) (hw : 0 ≤ c.within)
    (h : Cov c H p) (row : ρ) (x : List ρ) :
    Cov c (H ++ [row]) (stepPart c p row).1 ∧
    GChain c (H ++ [row] ++ x) p.nextStart (stepPart c p row).2 (stepPart c p row).1.nextStart := by
  have hinv := (stepPart_ok hw h.inv row).inv
  obtain ⟨hcand, hu⟩ := greedyStart_ok hw h.inv row
  have hr0 : RCov c (H ++ [row]) p.nextStart (survivorsOf c p row) := fun r hr ht hge hc =>
    survivorsOf_eq c p row ▸ List.mem_filter.2 ⟨mem_allSucc_of_tight h row hr ht hge, congrArg not hc⟩
  have hp0 : PCov c (H ++ [row]) p.nextStart (greedyStart c p row).pending := by
    refine h.pcov.ingest h.inv.uniq fun r hr hacc hge => ?_
    by_cases hin : r.startSeq - 1 + r.hist.length ≤ H.length
    · exact Or.inl (hr.restrict hin)
    · have ht := Nat.le_antisymm hr.facts.2.2 (List.length_append ▸ Nat.lt_of_not_le hin)
      cases hc : runComplete c r with
      | true => exact Or.inr (List.mem_append_left _ (mem_completionsOf_intro (mem_allSucc_of_tight h row hr ht hge) hc))
      | false => exact Or.inr (List.mem_append_right _ (List.mem_filter.2 ⟨hr0 r hr ht hge hc, hacc⟩))
  have key := emitGreedy_keeps_cov x ((greedyStart c p row).pending.length + 1) ⟨hcand, hu, hp0⟩ hr0
  have e := stepPart_greedy hl p row
  -- the loop's result as a variable, so that `e` rewrites goal and `hinv` to small terms
  generalize emitGreedy c _ (greedyStart c p row) = L at key e
  rw [e] at hinv ⊢
  exact ⟨⟨hinv, key.2.1, key.2.2⟩, key.1⟩

theorem flushPart_gchain {c : Cfg ρ} {H : List ρ} {p : Part ρ} (hl : c.lazy = false) (h : Cov c H p) :
    GChain c H p.nextStart (flushPart c p).2 (flushPart c p).1.nextStart ∧
    ∀ r, Reached c H r → runAccepting c r = true → r.startSeq < (flushPart c p).1.nextStart := by
  obtain ⟨hcand, hu⟩ := flushStart_ok h.inv
  obtain ⟨g, _⟩ := emitGreedy_gchain c (H ++ []) (LoopInv c H)
    (fun s b hi hm hb => (hi.step (Ahead.of_length_le c (Nat.le_of_eq (congrArg _ (List.append_nil H))) _ _) hm hb).2)
    ((flushStart c p).pending.length + 1) (flushStart c p)
    ⟨hcand, hu, h.pcov.ingest h.inv.uniq fun r hr _ _ => Or.inl hr⟩
  have g' : GChain c H p.nextStart (flushPart c p).2 (flushPart c p).1.nextStart := by
    rw [flushPart_greedy hl]
    exact List.append_nil H ▸ g
  refine ⟨g', fun r hr hacc => Nat.lt_of_not_le fun hge => ?_⟩
  -- the pending run that dominates `r` is decided by a reported match, behind which the scan does not go back
  obtain ⟨y, hy, hys, _⟩ := h.pcov r hr hacc (Nat.le_trans g'.ns_le hge)
  obtain ⟨m, hm, _, hlt, _⟩ := flushPart_decides hl h.inv y (Or.inl hy) (hys ▸ Nat.le_trans g'.ns_le hge)
  exact Nat.lt_irrefl _ (Nat.lt_of_lt_of_le (hys ▸ hlt) (Nat.le_trans (g'.skip_le m hm) hge))

end
end Cep
