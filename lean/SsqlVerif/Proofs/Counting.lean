/-
Counting window: per key, emissions = full chunks of N (C09).
Invariant: every key's buffer is shorter than N; the rows still to be chunked for key k are
`bufOf s k ++ (rows of k yet to come)`.
-/
import SsqlVerif.Model.Counting
import SsqlVerif.Spec.Counting
set_option autoImplicit false

namespace Counting
open CountingSpec
section
variable {σ ρ : Type} [DecidableEq σ]

/-- the rows of key `k` among the ops, in arrival order -/
def rowsOfOps : List (Op σ ρ) → σ → List ρ
  | [], _ => []
  | .row k' r :: ops, k => if k' = k then r :: rowsOfOps ops k else rowsOfOps ops k
  | .reap _ :: ops, k => rowsOfOps ops k

/-- no `reap` op: a reap drops buffered rows, so the C09 theorems assume that STATETTL expires no
key state -/
def noReap : List (Op σ ρ) → Bool
  | [] => true
  | .row _ _ :: ops => noReap ops
  | .reap _ :: _ => false

theorem fullChunks_short (n : Nat) (l : List ρ) (h : l.length < n) : fullChunks n l = [] := by
  unfold fullChunks
  rw [Nat.div_eq_of_lt h]
  rfl

theorem fullChunks_unfold (n : Nat) (hn : 0 < n) (l : List ρ) (h : n ≤ l.length) :
    fullChunks n l = l.take n :: fullChunks n (l.drop n) := by
  unfold fullChunks
  -- `range (m + 1) = 0 :: (range m).map succ`; chunk `i + 1` of `l` is chunk `i` of `l.drop n`
  have hdiv : l.length / n = (l.length - n) / n + 1 := by
    rw [Nat.div_eq l.length n, if_pos ⟨hn, h⟩]
  rw [hdiv, List.range_succ_eq_map, List.map_cons, List.map_map]
  simp only [Nat.zero_mul, List.drop_zero, List.length_drop, List.cons.injEq, true_and]
  apply List.map_congr_left
  intro i _
  simp only [Function.comp, List.drop_drop]
  rw [Nat.succ_mul, Nat.add_comm]

theorem fullChunks_append (n : Nat) (hn : 0 < n) (a t : List ρ) (h : n ≤ a.length) :
    fullChunks n (a ++ t) = a.take n :: fullChunks n (a.drop n ++ t) := by
  rw [fullChunks_unfold n hn (a ++ t) (List.length_append ▸ Nat.le_add_right_of_le h),
    List.take_append_of_le_length h, List.drop_append_of_le_length h]

theorem chunk_length (n : Nat) (l : List ρ) : ∀ c ∈ fullChunks n l, c.length = n := by
  intro c hc
  obtain ⟨i, hi, rfl⟩ := List.mem_map.1 hc
  have h : i * n + n ≤ l.length :=
    Nat.succ_mul i n ▸ Nat.le_trans (Nat.mul_le_mul_right n (List.mem_range.1 hi)) (Nat.div_mul_le_self _ _)
  rw [List.length_take, List.length_drop]
  exact Nat.min_eq_left (Nat.le_sub_of_add_le (Nat.add_comm _ _ ▸ h))

theorem flatten_slices (n m : Nat) (l : List ρ) :
    ((List.range m).map fun i => (l.drop (i * n)).take n).flatten = l.take (m * n) := by
  induction m with
  | zero =>
    rw [Nat.zero_mul]
    rfl
  | succ m ih =>
    rw [List.range_succ, List.map_append, List.flatten_append, ih, Nat.succ_mul, List.take_add]
    simp only [List.map_cons, List.map_nil, List.flatten_cons, List.flatten_nil, List.append_nil]

theorem fullChunks_flatten (n : Nat) (l : List ρ) :
    (fullChunks n l).flatten = l.take (l.length / n * n) :=
  flatten_slices n _ l

theorem bufOf_setBuf (s : Bufs σ ρ) (k k' : σ) (b : List ρ) :
    bufOf (setBuf s k' b) k = if k' = k then b else bufOf s k := by
  fun_induction setBuf s k' b with
  | case1 k' b => rw [bufOf, bufOf, bufOf]
  | case2 e rest b =>
    rw [bufOf, bufOf]
    split <;> rfl
  | case3 e rest k' b h ih =>
    rw [bufOf, ih, bufOf]
    by_cases hk : e.1 = k
    · rw [if_pos hk, if_pos hk, if_neg fun hk' => h (hk.trans hk'.symm)]
    · rw [if_neg hk, if_neg hk]

def Short (n : Nat) (s : Bufs σ ρ) : Prop := ∀ k, (bufOf s k).length < n

theorem kept_length (n : Nat) (s : Bufs σ ρ) (hs : Short n s) (k : σ) (r : ρ) :
    (kept n s k r).length < n := by
  have hlen : (appended s k r).length ≤ n := by
    rw [appended, List.length_append]
    exact hs k
  rw [kept]
  by_cases hf : fires n s k r = true
  · rw [if_pos hf, List.length_drop, Nat.sub_eq_zero_of_le hlen]
    exact Nat.zero_lt_of_lt (hs k)
  · rw [if_neg hf]
    exact Nat.lt_of_not_le fun hle => hf (decide_eq_true hle)

theorem short_add (n : Nat) (s : Bufs σ ρ) (hs : Short n s) (k : σ) (r : ρ) :
    Short n (add n s k r).1 := by
  intro k0
  rw [add, bufOf_setBuf]
  split
  · exact kept_length n s hs k r
  · exact hs k0

theorem emissionsOf_append (a b : List (σ × List ρ)) (k : σ) :
    emissionsOf (a ++ b) k = emissionsOf a k ++ emissionsOf b k := by
  rw [emissionsOf, List.filter_append, List.map_append]
  rfl

theorem emissionsOf_single (k' k : σ) (b : List ρ) :
    emissionsOf [(k', b)] k = if k' = k then [b] else [] := by
  rw [emissionsOf, List.filter_cons]
  by_cases h : k' = k
  · rw [if_pos (decide_eq_true h), if_pos h]
    rfl
  · rw [if_neg (by simpa using h), if_neg h]
    rfl

theorem run_row (n : Nat) (s : Bufs σ ρ) (k : σ) (r : ρ) (ops : List (Op σ ρ)) :
    run n s (.row k r :: ops)
      = (if fires n s k r then [(k, batch n s k r)] else []) ++ run n (add n s k r).1 ops := by
  rw [run, add]
  by_cases hf : fires n s k r = true
  · simp only [hf, if_true]
    rfl
  · simp only [hf]
    rfl

theorem run_eq_chunks_gen (n : Nat) (ops : List (Op σ ρ)) (hnr : noReap ops = true)
    (s : Bufs σ ρ) (hs : Short n s) (k : σ) :
    emissionsOf (run n s ops) k = fullChunks n (bufOf s k ++ rowsOfOps ops k) := by
  induction ops generalizing s with
  | nil =>
    rw [rowsOfOps, List.append_nil, fullChunks_short n _ (hs k)]
    rfl
  | cons op ops ih =>
    cases op with
    | reap idle => exact nomatch hnr
    | row k' r =>
      rw [run_row, emissionsOf_append, ih hnr _ (short_add n s hs k' r), add, bufOf_setBuf,
        rowsOfOps]
      by_cases hk : k' = k
      · subst hk
        have happ : bufOf s k' ++ r :: rowsOfOps ops k' = appended s k' r ++ rowsOfOps ops k' :=
          (List.append_assoc _ [r] _).symm
        rw [if_pos rfl, if_pos rfl, kept, happ]
        by_cases hf : fires n s k' r = true
        · rw [if_pos hf, if_pos hf, emissionsOf_single, if_pos rfl,
            fullChunks_append n (Nat.zero_lt_of_lt (hs k')) _ _ (of_decide_eq_true hf)]
          rfl
        · rw [if_neg hf, if_neg hf]
          rfl
      · rw [if_neg hk, if_neg hk]
        split
        · rw [emissionsOf_single, if_neg hk]
          rfl
        · rfl

omit [DecidableEq σ] in
theorem noReap_map_row {κ : Type} (enc : κ → σ) (rows : List (κ × ρ)) :
    noReap (rows.map fun x => Op.row (enc x.1) x.2) = true := by
  induction rows with
  | nil => rfl
  | cons x xs ih => exact ih

theorem rowsOfOps_map_row {κ : Type} (enc : κ → σ) (rows : List (κ × ρ)) (s : σ) :
    rowsOfOps (rows.map fun x => Op.row (enc x.1) x.2) s
      = (rows.filter fun x => decide (enc x.1 = s)).map Prod.snd := by
  induction rows with
  | nil => rfl
  | cons x xs ih =>
    rw [List.map_cons, rowsOfOps, ih, List.filter_cons]
    by_cases h : enc x.1 = s
    · rw [if_pos h, if_pos (decide_eq_true h)]
      rfl
    · rw [if_neg h, if_neg (by simpa using h)]

end
end Counting
