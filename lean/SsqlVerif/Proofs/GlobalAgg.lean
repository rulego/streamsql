/-
C17: the running accumulators compute the list aggregates of the specification; where the engine's
predicate evaluation coincides with SQL three-valued logic.
-/
import SsqlVerif.Model.Global
import SsqlVerif.Spec.Global
set_option autoImplicit false

namespace Global
open Spec

variable {α κ φ ε ν : Type}

def accCells [Num ν] (fn : AggFn) (cs : List (Cell ν)) : Acc ν := cs.foldl (Acc.feed fn) Acc.init

theorem foldl_onNum (f : Acc ν → ν → Acc ν) (cs : List (Cell ν)) (a : Acc ν) :
    cs.foldl (onNum f) a = (nums cs).foldl f a := by
  induction cs generalizing a with
  | nil => rfl
  | cons c cs ih => cases c <;> exact ih _

theorem foldl_feedCount_n (cs : List (Cell ν)) (a : Acc ν) :
    (cs.foldl feedCount a).n = a.n + (cs.filter fun c => !c.isNil).length := by
  induction cs generalizing a with
  | nil => rfl
  | cons c cs ih =>
    cases c
    case missing | null => exact ih a
    case num | junk => exact (ih _).trans (Nat.add_right_comm _ _ _)

theorem foldl_feedSumNum [Num ν] (xs : List ν) (a : Acc ν) :
    xs.foldl feedSumNum a = ⟨a.n, xs.foldl Num.add a.s, a.has || !xs.isEmpty⟩ := by
  induction xs generalizing a with
  | nil => simp
  | cons x xs ih => simp [ih, feedSumNum]

theorem foldl_feedAvgNum [Num ν] (xs : List ν) (a : Acc ν) :
    xs.foldl feedAvgNum a = ⟨a.n + xs.length, xs.foldl Num.add a.s, a.has⟩ := by
  induction xs generalizing a with
  | nil => rfl
  | cons x xs ih => exact (ih _).trans (congrArg (Acc.mk · _ _) (Nat.add_right_comm a.n 1 xs.length))

/-- once a value has been seen (`has = true`) MIN and MAX keep the better one; the first value, fed to a
fresh accumulator, is peeled off in `result_accCells` -/
theorem foldl_feedExt (feed : Acc ν → ν → Acc ν) (better : ν → ν → Bool)
    (hfeed : ∀ n m x, feed ⟨n, m, true⟩ x = ⟨n, if better x m then x else m, true⟩)
    (xs : List ν) (n : Nat) (m : ν) :
    xs.foldl feed ⟨n, m, true⟩ = ⟨n, xs.foldl (fun m y => if better y m then y else m) m, true⟩ := by
  induction xs generalizing m with
  | nil => rfl
  | cons x xs ih => rw [List.foldl_cons, hfeed, ih, List.foldl_cons]

theorem feedMinNum_has [Num ν] (n : Nat) (m x : ν) :
    feedMinNum ⟨n, m, true⟩ x = ⟨n, if Num.lt x m then x else m, true⟩ :=
  (apply_ite (Acc.mk n · true) (Num.lt x m) x m).symm

theorem feedMaxNum_has [Num ν] (n : Nat) (m x : ν) :
    feedMaxNum ⟨n, m, true⟩ x = ⟨n, if Num.lt m x then x else m, true⟩ :=
  (apply_ite (Acc.mk n · true) (Num.lt m x) x m).symm

/-- C17 `running_aggregate_eq`: the running aggregates are the list aggregates of the specification -/
theorem result_accCells [Num ν] (fn : AggFn) (cs : List (Cell ν)) :
    Acc.result fn (accCells fn cs) = aggList fn cs := by
  cases fn <;> dsimp only [accCells, Acc.feed, Acc.result, aggList]
  case count =>
    rw [foldl_feedCount_n]
    exact congrArg (some <| Num.ofNat ·) (Nat.zero_add _)
  case sum =>
    rw [foldl_onNum, foldl_feedSumNum]
    cases nums cs <;> rfl
  case avg =>
    rw [foldl_onNum, foldl_feedAvgNum]
    cases nums cs with
    | nil => rfl
    | cons x xs => simp [avgResult, Acc.init, sumL]
  case min =>
    rw [foldl_onNum]
    cases nums cs with
    | nil => rfl
    | cons x xs => exact congrArg hasResult (foldl_feedExt _ _ feedMinNum_has xs 0 x)
  case max =>
    rw [foldl_onNum]
    cases nums cs with
    | nil => rfl
    | cons x xs => exact congrArg hasResult (foldl_feedExt _ _ feedMaxNum_has xs 0 x)

theorem accCells_snoc [Num ν] (fn : AggFn) (cs : List (Cell ν)) (c : Cell ν) :
    accCells fn (cs ++ [c]) = (accCells fn cs).feed fn c := by
  simp [accCells, List.foldl_append]

theorem evalWith_map [Num ν] (p : Pred φ ν) (f : AggCall φ → Option ν) :
    evalWith p (p.leaves.map f) = evalDirect p f := by
  induction p with
  | cmp c op lit => simp [Pred.leaves, evalWith, evalDirect]
  | and l r ihl ihr | or l r ihl ihr =>
    simp only [Pred.leaves, evalWith, evalDirect, List.map_append]
    rw [List.take_left' (by simp), List.drop_left' (by simp), ihl, ihr]

/-- the engine's verdict on the aggregates of `seg` -/
def engineTrue [DecidableEq φ] [Num ν] (p : Pred φ ν) (seg : List (Row κ φ ν)) : Bool :=
  evalDirect p (fun c => aggOf c seg) = .ok true

theorem combAnd_eq_ok_true_iff (a b : Res) : combAnd a b = .ok true ↔ a = .ok true ∧ b = .ok true := by
  rcases a with _ | _ | _ <;> simp [combAnd]

theorem and3_eq_some_true_iff (a b : Option Bool) : and3 a b = some true ↔ a = some true ∧ b = some true := by
  rcases a with _ | _ | _ <;> rcases b with _ | _ | _ <;> decide

theorem combAnd_ok (a b : Bool) : combAnd (.ok a) (.ok b) = .ok (a && b) := by
  cases a <;> rfl

theorem combOr_ok (a b : Bool) : combOr (.ok a) (.ok b) = .ok (a || b) := by
  cases a <;> rfl

theorem and3_some (a b : Bool) : and3 (some a) (some b) = some (a && b) := by
  cases a <;> cases b <;> rfl

theorem or3_some (a b : Bool) : or3 (some a) (some b) = some (a || b) := by
  cases a <;> cases b <;> rfl

theorem evalDirect_nonNull [DecidableEq φ] [Num ν] (seg : List (Row κ φ ν)) (p : Pred φ ν)
    (h : ∀ c ∈ p.leaves, (aggOf c seg).isSome) :
    ∃ b, evalDirect p (fun c => aggOf c seg) = .ok b ∧ holds3 seg p = some b := by
  induction p with
  | cmp c op lit =>
    obtain ⟨x, hx⟩ := Option.isSome_iff_exists.mp (h c (List.mem_singleton_self c))
    exact ⟨cmpNum op x lit, congrArg (evalLeaf op · lit) hx, congrArg (Option.map _) hx⟩
  | and l r ihl ihr =>
    obtain ⟨a, ha1, ha2⟩ := ihl fun c hc => h c (List.mem_append_left _ hc)
    obtain ⟨b, hb1, hb2⟩ := ihr fun c hc => h c (List.mem_append_right _ hc)
    exact ⟨a && b, by simp only [evalDirect, ha1, hb1, combAnd_ok], by simp only [holds3, ha2, hb2, and3_some]⟩
  | or l r ihl ihr =>
    obtain ⟨a, ha1, ha2⟩ := ihl fun c hc => h c (List.mem_append_left _ hc)
    obtain ⟨b, hb1, hb2⟩ := ihr fun c hc => h c (List.mem_append_right _ hc)
    exact ⟨a || b, by simp only [evalDirect, ha1, hb1, combOr_ok], by simp only [holds3, ha2, hb2, or3_some]⟩

/-- a conjunction without `!=`: an aborted or false evaluation is exactly "not TRUE" in SQL -/
theorem evalDirect_conj [DecidableEq φ] [Num ν] (seg : List (Row κ φ ν)) (p : Pred φ ν)
    (h : conjNoNe p = true) :
    evalDirect p (fun c => aggOf c seg) = .ok true ↔ holds3 seg p = some true := by
  induction p with
  | cmp c op lit =>
    simp only [evalDirect, holds3]
    cases aggOf c seg with
    | none => cases op <;> simp [evalLeaf, evalNullCmp, conjNoNe] at h ⊢
    | some x => simp [evalLeaf]
  | and l r ihl ihr =>
    simp only [conjNoNe, Bool.and_eq_true] at h
    simp only [evalDirect, holds3, combAnd_eq_ok_true_iff, and3_eq_some_true_iff, ihl h.1, ihr h.2]
  | or l r _ _ => cases h

theorem engineTrue_eq_predTrue [DecidableEq φ] [Num ν] (p : Pred φ ν) (seg : List (Row κ φ ν))
    (h : pointSafe p seg = true) : engineTrue p seg = predTrue p seg := by
  refine decide_eq_decide.mpr ?_
  cases Bool.or_eq_true_iff.mp h with
  | inl h =>
    obtain ⟨b, hb1, hb2⟩ := evalDirect_nonNull seg p (List.all_eq_true.mp h)
    rw [hb1, hb2, Res.ok.injEq, Option.some.injEq]
  | inr h => exact evalDirect_conj seg p h

end Global
