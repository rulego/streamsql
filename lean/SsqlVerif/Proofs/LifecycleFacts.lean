/-
What the lifecycle invariant `LInv` gives for any state that satisfies it.
-/
import SsqlVerif.Proofs.Lifecycle
set_option autoImplicit false

namespace Lifecycle

section
variable {c : Cfg} {s : State} {t : Thread}

theorem exists_slot (ht : t ∈ allThreads s) : ∃ sl : Slot, sl.get s = some t := by
  rcases List.mem_cons.mp ht with rfl | ht
  · exact ⟨.eng, rfl⟩
  · rcases List.mem_append.mp ht with ht | ht
    · obtain ⟨j, hj⟩ := List.getElem?_of_mem ht
      exact ⟨.worker j, hj⟩
    · obtain ⟨i, hi⟩ := List.getElem?_of_mem ht
      exact ⟨.caller i, hi⟩

theorem quiescent_after_join {k : Nat} {pc : SPC} (h : LInv c s) (hk : s.stops[k]? = some pc) (hp : pastJoin pc = true) :
    s.eng.alive = false ∧ s.eng.act = .idle ∧
    (∀ t ∈ s.workers, t.alive = false ∧ t.act = .idle) ∧
    (c.syncGuard = true → ∀ t ∈ s.callers, t.act = .idle) := by
  -- the counter is zero, so nobody holds a count
  have unc : ∀ {sl : Slot} {t : Thread}, sl.get s = some t → sl.counted t = false := by
    intro sl t hg
    have := (counts_ge hg).1
    rw [← h.life, h.st.joined k pc hk hp] at this
    exact b2n_eq_zero this
  have he : s.eng.alive = false := unc (sl := .eng) rfl
  refine ⟨he, h.th.eng.2 he, fun t ht => ?_, fun hg t ht => ?_⟩
  · obtain ⟨j, hj⟩ := List.getElem?_of_mem ht
    have ha : t.alive = false := unc (sl := .worker j) hj
    exact ⟨ha, (h.th.workers t ht).2 ha⟩
  · obtain ⟨i, hi⟩ := List.getElem?_of_mem ht
    have hj : t.joined = false := unc (sl := .caller i) hi
    exact Decidable.of_not_not fun hne => absurd ((h.th.callers t ht).2.mpr ⟨hg, hne⟩) (Bool.eq_false_iff.mp hj)

theorem heldOf_of_selfWait {a : Act} (h : selfWait a = true) : heldOf a = true := by
  cases a <;> first | exact h | cases h

theorem selfWait_stuck (h : LInv c s) (ht : t ∈ allThreads s) (hw : selfWait t.act = true) :
    actStep c s t.act = none := by
  obtain ⟨sl, hg⟩ := exists_slot ht
  have hpos := (counts_ge hg).2
  rw [← h.rd, heldOf_of_selfWait hw] at hpos
  cases ha : t.act with
  | wantW b as ss held => exact if_neg (Nat.ne_of_gt hpos)
  | _ =>
    rw [ha] at hw
    cases hw

theorem not_selfWait_of_copy (h : LInv c s) (hc : c.copySinks = true) (ht : t ∈ allThreads s) :
    selfWait t.act = false := by
  obtain ⟨sl, hg⟩ := exists_slot ht
  have := (counts_ge hg).2
  rw [h.copy hc] at this
  exact Bool.eq_false_iff.mpr fun hw => absurd (heldOf_of_selfWait hw) (Bool.eq_false_iff.mp (b2n_eq_zero this))

end

end Lifecycle
