/-
C06 — cache transparency of the bridge's two process-wide memo tables.
-/
import SsqlVerif.Model.Expr
set_option autoImplicit false

namespace Ex.Cache

section
variable {Text Ty Prog Res' Row' : Type} [DecidableEq Text] [DecidableEq Ty]

/-- every stored program is what `compile` gives for its (text, type); every stored text is `prep` of its key -/
def Inv (prep : Text → Text) (compile : Text → Ty → Option Prog) (s : State Text Ty Prog) : Prop :=
  (∀ t ty p, find t s.prog = some (ty, p) → compile t ty = some p) ∧
  (∀ t t', find t s.pre = some t' → t' = prep t)

theorem find_cons {α β : Type} [DecidableEq α] (k a : α) (b : β) (l : List (α × β)) :
    find k ((a, b) :: l) = if a = k then some b else find k l := rfl

variable (prep : Text → Text) (compile : Text → Ty → Option Prog)
  (run : Option Prog → Row' → Res') (tyOf : Row' → Ty)

omit [DecidableEq Ty] in
theorem inv_empty :
    Inv prep compile ({ prog := [], pre := [] } : State Text Ty Prog) := by
  constructor
  all_goals intro _
  all_goals simp [find]

omit [DecidableEq Ty] in
theorem preStep_spec (s : State Text Ty Prog) (t : Text) (h : Inv prep compile s) :
    (preStep prep s t).2 = prep t ∧ Inv prep compile (preStep prep s t).1 := by
  unfold preStep
  cases hf : find t s.pre with
  | some t' => exact ⟨h.2 t t' hf, h⟩
  | none =>
    refine ⟨rfl, h.1, ?_⟩
    intro k k' hk
    simp only [find_cons] at hk
    by_cases hkt : t = k
    · subst hkt
      simp at hk
      exact hk.symm
    · simp [hkt] at hk
      exact h.2 k k' hk

theorem progStep_spec (s : State Text Ty Prog) (t : Text) (ty : Ty) (h : Inv prep compile s) :
    (progStep compile s t ty).2 = compile t ty ∧ Inv prep compile (progStep compile s t ty).1 := by
  have store : ∀ p', compile t ty = some p' →
      Inv prep compile { s with prog := (t, (ty, p')) :: s.prog } := by
    intro p' hc
    refine ⟨?_, h.2⟩
    intro k ky kp hk
    simp only [find_cons] at hk
    by_cases hkt : t = k
    · subst hkt
      simp at hk
      obtain ⟨rfl, rfl⟩ := hk
      exact hc
    · simp [hkt] at hk
      exact h.1 k ky kp hk
  fun_cases progStep compile s t ty
  case case1 p hf => exact ⟨(h.1 t ty p hf).symm, h⟩  -- hit
  case case2 p' hc | case4 p' hc => exact ⟨hc.symm, store p' hc⟩  -- compiled and stored
  case case3 hc | case5 hc => exact ⟨hc.symm, h⟩  -- compilation failed

theorem evalStep_spec (s : State Text Ty Prog) (q : Text × Row') (h : Inv prep compile s) :
    (evalStep prep compile run tyOf s q).2 = evalPure prep compile run tyOf q ∧
    Inv prep compile (evalStep prep compile run tyOf s q).1 := by
  obtain ⟨h1, h2⟩ := preStep_spec prep compile s q.1 h
  obtain ⟨h3, h4⟩ := progStep_spec prep compile (preStep prep s q.1).1 (preStep prep s q.1).2 (tyOf q.2) h2
  refine ⟨?_, h4⟩
  simp only [evalStep, evalPure]
  rw [h3, h1]

theorem runAll_spec :
    ∀ (qs : List (Text × Row')) (s : State Text Ty Prog), Inv prep compile s →
      (runAll prep compile run tyOf s qs).2 = qs.map (evalPure prep compile run tyOf) := by
  intro qs
  induction qs with
  | nil =>
    intro s _
    rfl
  | cons q qs ih =>
    intro s h
    obtain ⟨h1, h2⟩ := evalStep_spec prep compile run tyOf s q h
    simp only [runAll, List.map_cons, h1, ih _ h2]

theorem runAll_inv :
    ∀ (qs : List (Text × Row')) (s : State Text Ty Prog), Inv prep compile s →
      Inv prep compile (runAll prep compile run tyOf s qs).1 := by
  intro qs
  induction qs with
  | nil => exact fun _ h => h
  | cons q qs ih => exact fun s h => ih _ (evalStep_spec prep compile run tyOf s q h).2

end
end Ex.Cache
