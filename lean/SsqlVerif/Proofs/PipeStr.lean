/-
String-level lemmas for the pipeline model (C05): splitting on one byte, scanning to a byte,
white-space trimming, `atoi ∘ itoa`, the alias separator scan of `splitFieldSpec`.
-/
import SsqlVerif.Model.Pipeline
set_option autoImplicit false

namespace Pipe

/-- the alias-separator scan of `splitFieldSpec` from quote state `q`: `some q'` = all of `s` is read without
a `:` outside quotes, ending in state `q'`; `none` = such a `:` is met -/
def scanTo : Option Char → Str → Option (Option Char)
  | q, [] => some q
  | q, c :: cs => if isCut q c then none else scanTo (quoteNext q c) cs

/-! Which bytes a text cannot contain is read off a class `p` with `s.all p`. -/

theorem all_imp {α : Type} {p q : α → Bool} (h : ∀ a, p a = true → q a = true) {l : List α}
    (hl : l.all p = true) : l.all q = true :=
  List.all_eq_true.mpr fun a ha => h a (List.all_eq_true.mp hl a ha)

theorem all_not_mem {p : Char → Bool} (s : Str) (d : Char) (hs : s.all p = true) (hd : p d = false) : d ∉ s :=
  fun hm => Bool.false_ne_true (hd ▸ List.all_eq_true.mp hs d hm)

theorem head?_ne_of_all {p : Char → Bool} (s : Str) (d : Char) (hs : s.all p = true) (hd : p d = false) :
    s.head? ≠ some d :=
  fun e => all_not_mem s d hs hd (List.mem_of_mem_head? (e ▸ rfl))

theorem splitChar_ne_nil (sep : Char) (s : Str) : splitChar sep s ≠ [] := by
  fun_cases splitChar sep s with
  | case1 => exact List.cons_ne_nil _ _  -- `[]`
  | case2 cs => exact List.cons_ne_nil _ _  -- separator
  | case3 c cs hc => cases splitChar sep cs <;> exact List.cons_ne_nil _ _  -- other byte

theorem splitChar_nosep (sep : Char) (a : Str) (h : sep ∉ a) : splitChar sep a = [a] := by
  induction a with
  | nil => rfl
  | cons c cs ih =>
    rw [List.mem_cons, not_or] at h
    simp [splitChar, Ne.symm h.1, ih h.2, consHead]

theorem splitChar_append_sep (sep : Char) (a b : Str) (h : sep ∉ a) :
    splitChar sep (a ++ sep :: b) = a :: splitChar sep b := by
  induction a with
  | nil => simp [splitChar]
  | cons c cs ih =>
    rw [List.mem_cons, not_or] at h
    simp [splitChar, Ne.symm h.1, ih h.2, consHead]

theorem takeUntil_nosep (c : Char) (a : Str) (h : c ∉ a) : takeUntil c a = a := by
  induction a with
  | nil => rfl
  | cons x xs ih =>
    rw [List.mem_cons, not_or] at h
    simp [takeUntil, Ne.symm h.1, ih h.2]

theorem takeUntil_dropAfter_sep (c : Char) (a b : Str) (h : c ∉ a) :
    takeUntil c (a ++ c :: b) = a ∧ dropAfter c (a ++ c :: b) = some b := by
  induction a with
  | nil => simp [takeUntil, dropAfter]
  | cons x xs ih =>
    rw [List.mem_cons, not_or] at h
    simp [takeUntil, dropAfter, Ne.symm h.1, ih h.2]

theorem takeUntil_length_le (c : Char) (s : Str) : (takeUntil c s).length ≤ s.length := by
  fun_induction takeUntil c s with
  | case1 => exact Nat.le_refl _  -- `[]`
  | case2 xs => exact Nat.zero_le _  -- `x = c`
  | case3 x xs hx ih => exact Nat.succ_le_succ ih  -- `x ≠ c`

theorem dropAfter_length_lt (c : Char) (s t : Str) (h : dropAfter c s = some t) : t.length < s.length := by
  fun_induction dropAfter c s with
  | case1 => cases h  -- `[]`
  | case2 xs =>  -- `x = c`
    cases h
    exact Nat.lt_succ_self _
  | case3 x xs hx ih => exact Nat.lt_succ_of_lt (ih h)  -- `x ≠ c`

theorem trimLeft_id (s : Str) (h : ∀ c, s.head? = some c → isAsciiSpace c = false) : trimLeft s = s := by
  cases s with
  | nil => rfl
  | cons c cs =>
    rw [trimLeft, h c rfl]
    rfl

theorem trimSpace_id (s : Str) (h : ∀ c ∈ s, isAsciiSpace c = false) : trimSpace s = s := by
  unfold trimSpace
  rw [trimLeft_id s fun c hc => h c (List.mem_of_mem_head? hc),
    trimLeft_id s.reverse fun c hc => h c (List.mem_reverse.mp (List.mem_of_mem_head? hc)), List.reverse_reverse]

theorem toDigits_all_isDigit (n : Nat) : (Nat.toDigits 10 n).all Char.isDigit = true :=
  List.all_eq_true.mpr fun _ hc => Nat.isDigit_of_mem_toDigits (by decide) (by decide) hc

theorem natOfDigits_toDigits (n : Nat) : natOfDigits (Nat.toDigits 10 n) = some n := by
  unfold natOfDigits
  rw [if_pos ⟨Nat.toDigits_ne_nil, toDigits_all_isDigit n⟩, Nat.ofDigitChars_ten_toDigits]

theorem atoi_of_digits (ds : Str) (h : ds.all Char.isDigit = true) :
    atoi ds = (natOfDigits ds).bind fun n => if n < int64Bound then some (n : Int) else none := by
  fun_cases atoi ds with
  | case1 ds => exact absurd (List.mem_cons_self ..) (all_not_mem _ '-' h rfl)  -- `-` sign
  | case2 ds => exact absurd (List.mem_cons_self ..) (all_not_mem _ '+' h rfl)  -- `+` sign
  | case3 ds h1 h2 => rfl  -- no sign

/-- `strconv.Atoi(strconv.Itoa(i)) = i` for every `i` of Go's `int` -/
theorem atoi_itoa (i : Int) (hlo : -(int64Bound : Int) ≤ i) (hhi : i < (int64Bound : Int)) :
    atoi (itoa i) = some i := by
  cases i with
  | ofNat n =>
    have hi : itoa (Int.ofNat n) = Nat.toDigits 10 n := if_neg (Int.not_lt.mpr (Int.natCast_nonneg n))
    rw [hi, atoi_of_digits _ (toDigits_all_isDigit _), natOfDigits_toDigits, Option.bind_some,
      if_pos (Int.ofNat_lt.mp hhi)]
    rfl
  | negSucc n =>
    have hi : itoa (Int.negSucc n) = '-' :: Nat.toDigits 10 (n + 1) := if_pos (Int.negSucc_lt_zero n)
    have hn : n + 1 ≤ int64Bound := by omega
    rw [hi]
    simp only [atoi, natOfDigits_toDigits, Option.bind_some]
    rw [if_pos hn]
    rfl

theorem itoa_ne_nil (i : Int) : itoa i ≠ [] := by
  fun_cases itoa i with
  | case1 hneg => exact List.cons_ne_nil _ _  -- negative
  | case2 hneg => exact Nat.toDigits_ne_nil  -- non-negative

theorem scanTo_append (q q' : Option Char) (s t : Str) (h : scanTo q s = some q') :
    specBefore q (s ++ t) = s ++ specBefore q' t ∧ specAfter q (s ++ t) = specAfter q' t ∧
      scanTo q (s ++ t) = scanTo q' t := by
  fun_induction scanTo q s with
  | case1 q =>  -- `[]`
    cases h
    exact ⟨rfl, rfl, rfl⟩
  | case2 q c cs hc => cases h  -- separator met
  | case3 q c cs hc ih =>  -- next byte
    obtain ⟨h1, h2, h3⟩ := ih h
    simp only [List.cons_append, specBefore, specAfter, scanTo, hc, h1, h2, h3]
    exact ⟨rfl, rfl, rfl⟩

theorem scanTo_plain {p : Char → Bool} (s : Str) (hs : s.all p = true)
    (hq : ∀ c, p c = true → isQuoteChar c = false) (hc : p ':' = false) : scanTo none s = some none := by
  induction s with
  | nil => rfl
  | cons c cs ih =>
    rw [List.all_cons, Bool.and_eq_true] at hs
    have hne : c ≠ ':' := fun e => Bool.false_ne_true (hc ▸ e ▸ hs.1)
    simp [scanTo, isCut, hne, quoteNext, hq c hs.1, ih hs.2]

theorem scanTo_quoted (qc : Char) (s : Str) (h : qc ∉ s) : scanTo (some qc) (s ++ [qc]) = some none := by
  induction s with
  | nil => simp [scanTo, isCut, quoteNext]
  | cons c cs ih =>
    rw [List.mem_cons, not_or] at h
    simp [scanTo, isCut, quoteNext, Ne.symm h.1, ih h.2]

theorem specBefore_cut (t : Str) : specBefore none (':' :: t) = [] := rfl
theorem specAfter_cut (t : Str) : specAfter none (':' :: t) = some t := rfl
theorem specBefore_nil (q : Option Char) : specBefore q [] = [] := rfl
theorem specAfter_nil (q : Option Char) : specAfter q [] = none := rfl

end Pipe
