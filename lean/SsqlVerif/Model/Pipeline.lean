/-
Model of the direct (non-aggregate, non-window) path of rulego/streamsql  — properties C05, C20.

Mirrors, one named definition per sub-decision of the Go code:
  utils/fieldpath/fieldpath.go   ParseFieldPath / parseComplexPart / parseBracketContent /
                                 GetNestedField / accessFieldPart / getArrayElement / getMapValue /
                                 getNestedFieldSimple / getFieldValue
  stream/processor_field.go      compileSimpleFieldInfo (splitFieldSpec, backticks, literal / call /
                                 nested classification), compileOutputNames (direct branch),
                                 processSimpleField, processExpressionField (literal expressions only;
                                 every other expression is an abstract `Env.exprEval`)
  stream/stream.go               applyWhereAndAnalytic (no analytic fields), projectDirectRow,
                                 processDirectDataSync
  stream/processor_data.go       processDirectData, expandUnnestResults (guard only), applyOrderBy guard
  stream/handler_result.go       sendResultNonBlocking / handleResultChannelBackpressure, callSinksAsync

Strings are byte lists (`List Char`, one `Char` per byte).  Rows are association lists; a key that is
absent is *missing* (`none`), a key bound to `Value.null` is SQL NULL.  Core Lean only.
-/
set_option autoImplicit false

namespace Pipe

abbrev Str := List Char

/-- JSON-like values a caller can put into a row (`map[string]any`, `[]any`, scalars, nil). -/
inductive Value where
  | null
  | int (i : Int)
  | float (bits : UInt64)
  | str (s : Str)
  | bool (b : Bool)
  | list (xs : List Value)
  | map (kvs : List (Str × Value))

abbrev Row := List (Str × Value)

/-! ### maps as association lists -/

/-- `m[k]` with the comma-ok result: `none` = key absent -/
def lookupKey (k : Str) : Row → Option Value
  | [] => none
  | (k', v) :: rest => if k' = k then some v else lookupKey k rest

/-- `m[k] = v` -/
def setKey (k : Str) (v : Value) : Row → Row
  | [] => [(k, v)]
  | (k', v') :: rest => if k' = k then (k, v) :: rest else (k', v') :: setKey k v rest

def hasKey (k : Str) (m : Row) : Bool := (lookupKey k m).isSome

def keysOf (m : Row) : List Str := m.map Prod.fst

/-! ### small string functions (Go `strings` package on bytes) -/

def consHead (c : Char) : List Str → List Str
  | [] => [[c]]
  | h :: t => (c :: h) :: t

/-- `strings.Split(s, string(sep))` for a one-byte separator -/
def splitChar (sep : Char) : Str → List Str
  | [] => [[]]
  | c :: cs => if c = sep then [] :: splitChar sep cs else consHead c (splitChar sep cs)

/-- text before the first `c` (whole string if there is none) -/
def takeUntil (c : Char) : Str → Str
  | [] => []
  | x :: xs => if x = c then [] else x :: takeUntil c xs

/-- text after the first `c`; `none` if `c` does not occur (`strings.Index = -1`) -/
def dropAfter (c : Char) : Str → Option Str
  | [] => none
  | x :: xs => if x = c then some xs else dropAfter c xs

def isAsciiSpace (c : Char) : Bool :=
  c = ' ' || c = '\t' || c = '\n' || c = '\r' || c = Char.ofNat 11 || c = Char.ofNat 12

def trimLeft : Str → Str
  | [] => []
  | c :: cs => if isAsciiSpace c then trimLeft cs else c :: cs

/-- `strings.TrimSpace` (ASCII white space) -/
def trimSpace (s : Str) : Str := (trimLeft (trimLeft s).reverse).reverse

/-- `len(s) ≥ 2 ∧ s[0] = q ∧ s[len-1] = q` -/
def wrappedIn (q : Char) (s : Str) : Bool :=
  decide (2 ≤ s.length) && s.head? == some q && s.getLast? == some q

/-- `s[1 : len(s)-1]` -/
def inner (s : Str) : Str := (s.drop 1).dropLast

/-! ### integers in bracket subscripts (`strconv.Atoi` / `strconv.Itoa`) -/

def natOfDigits (ds : Str) : Option Nat :=
  if ds ≠ [] ∧ ds.all Char.isDigit = true then some (Nat.ofDigitChars 10 ds 0) else none

def int64Bound : Nat := 9223372036854775808

/-- `strconv.Atoi`: optional sign, at least one decimal digit, result inside int64 -/
def atoi : Str → Option Int
  | '-' :: ds => (natOfDigits ds).bind fun n => if n ≤ int64Bound then some (-(n : Int)) else none
  | '+' :: ds => (natOfDigits ds).bind fun n => if n < int64Bound then some (n : Int) else none
  | ds => (natOfDigits ds).bind fun n => if n < int64Bound then some (n : Int) else none

/-- `strconv.Itoa` -/
def itoa (i : Int) : Str :=
  if i < 0 then '-' :: Nat.toDigits 10 (-i).toNat else Nat.toDigits 10 i.toNat

/-! ### fieldpath.ParseFieldPath -/

/-- `FieldPart`: `field` (Name), `array_index` (Index), `map_key` (Key, KeyType "string") -/
inductive Part where
  | field (name : Str)
  | index (i : Int)
  | key (k : Str)
  deriving DecidableEq, Repr

/-- how `ParseFieldPath` can fail; `sliceBounds` is the Go run-time panic of `content[1:len-1]` on a
one-byte content that is a single quote character -/
inductive PErr where
  | unmatched
  | invalid
  | sliceBounds
  deriving DecidableEq, Repr

def isQuoted (content : Str) : Bool :=
  (content.head? == some '\'' && content.getLast? == some '\'') ||
  (content.head? == some '"' && content.getLast? == some '"')

/-- `parseBracketContent` -/
def parseBracketContent (content0 : Str) : Except PErr Part :=
  if isQuoted (trimSpace content0) then
    (if (trimSpace content0).length < 2 then .error .sliceBounds else .ok (.key (inner (trimSpace content0))))
  else
    match atoi (trimSpace content0) with
    | some n => .ok (.index n)
    | none => .error .invalid

/-- the `for len(remaining) > 0 && HasPrefix(remaining, "[")` loop of `parseComplexPart`; every
iteration consumes at least two bytes, so `fuel = len(remaining)` is enough (`bracketLoop_fuel_succ`). -/
def bracketLoop : Nat → Str → List Part → Except PErr (List Part)
  | 0, _, acc => .ok acc
  | fuel + 1, rem, acc =>
    match rem with
    | '[' :: rest =>
      match dropAfter ']' rest with
      | none => .error .unmatched
      | some after =>
        match parseBracketContent (takeUntil ']' rest) with
        | .error e => .error e
        | .ok p => bracketLoop fuel after (acc ++ [p])
    | _ => .ok acc

/-- the leading field name of a bracketed part (`part[:bracketIndex]`, only if non-empty) -/
def leadingField (part : Str) : List Part :=
  if takeUntil '[' part = [] then [] else [.field (takeUntil '[' part)]

/-- `parseComplexPart` (called only when the part contains `[`) -/
def parseComplexPart (part : Str) (acc : List Part) : Except PErr (List Part) :=
  bracketLoop part.length (part.drop (takeUntil '[' part).length) (acc ++ leadingField part)

def parsePart (part : Str) (acc : List Part) : Except PErr (List Part) :=
  if part = [] then .ok acc
  else if part.contains '[' then parseComplexPart part acc
  else .ok (acc ++ [.field part])

def parseParts : List Str → List Part → Except PErr (List Part)
  | [], acc => .ok acc
  | p :: ps, acc =>
    match parsePart p acc with
    | .error e => .error e
    | .ok acc' => parseParts ps acc'

/-- `ParseFieldPath` for a non-empty path -/
def parseFieldPath (path : Str) : Except PErr (List Part) :=
  parseParts (splitChar '.' path) []

/-! ### fieldpath.GetNestedField -/

/-- `getFieldValue` on the values a row can hold: only a map with string keys has fields -/
def fieldOf (v : Value) (name : Str) : Option Value :=
  match v with
  | .map kvs => lookupKey name kvs
  | _ => none

/-- Go: `if index < 0 { index = length + index }; if index < 0 || index >= length { not found }` -/
def wrapIndex (len : Nat) (i : Int) : Option Nat :=
  if 0 ≤ i then (if i.toNat < len then some i.toNat else none)
  else if 0 ≤ (len : Int) + i then some ((len : Int) + i).toNat
  else none

/-- `getArrayElement`: slices by (possibly negative) position, `map[string]any` by the decimal text -/
def elemOf (v : Value) (i : Int) : Option Value :=
  match v with
  | .list xs => (wrapIndex xs.length i).bind fun n => xs[n]?
  | .map kvs => lookupKey (itoa i) kvs
  | _ => none

/-- `getMapValue` with a string key -/
def keyOf (v : Value) (k : Str) : Option Value :=
  match v with
  | .map kvs => lookupKey k kvs
  | _ => none

/-- `accessFieldPart` (a nil datum has no parts: all three helpers answer `none` on `.null`) -/
def accessPart (v : Value) : Part → Option Value
  | .field n => fieldOf v n
  | .index i => elemOf v i
  | .key k => keyOf v k

def walkParts : Value → List Part → Option Value
  | v, [] => some v
  | v, p :: ps => (accessPart v p).bind fun v' => walkParts v' ps

/-- `getNestedFieldSimple`: plain dot access, no skipping of empty segments -/
def walkFields : Value → List Str → Option Value
  | v, [] => some v
  | v, f :: fs => (fieldOf v f).bind fun v' => walkFields v' fs

/-- `GetNestedField`: `.error ()` is the propagated run-time panic; `.ok none` = not found -/
def getNestedField (data : Value) (path : Str) : Except Unit (Option Value) :=
  if path = [] then .ok none
  else match parseFieldPath path with
    | .error .sliceBounds => .error ()
    | .error _ => .ok (walkFields data (splitChar '.' path))
    | .ok [] => .ok none
    | .ok parts => .ok (walkParts data parts)

/-! ### compileSimpleFieldInfo -/

def isQuoteChar (c : Char) : Bool := c = '\'' || c = '"' || c = '`'

/-- quote state after reading `c` (`q` = the open quote character, if any) -/
def quoteNext (q : Option Char) (c : Char) : Option Char :=
  match q with
  | some q' => if c = q' then none else some q'
  | none => if isQuoteChar c then some c else none

/-- `c` is the separator: a `:` outside quotes -/
def isCut (q : Option Char) (c : Char) : Bool := q.isNone && c = ':'

/-- `splitFieldSpec(spec)[0]`: the text before the first `:` outside quotes -/
def specBefore : Option Char → Str → Str
  | _, [] => []
  | q, c :: cs => if isCut q c then [] else c :: specBefore (quoteNext q c) cs

/-- `splitFieldSpec(spec)[1]` if there is a separator -/
def specAfter : Option Char → Str → Option Str
  | _, [] => none
  | q, c :: cs => if isCut q c then some cs else specAfter (quoteNext q c) cs

def stripBackticks (s : Str) : Str := if wrappedIn '`' s then inner s else s

structure FieldInfo where
  selectAll : Bool
  fieldName : Str
  outputName : Str
  isFunctionCall : Bool
  hasNested : Bool
  isLiteral : Bool
  literal : Str
  deriving DecidableEq, Repr

def specFieldName (spec : Str) : Str := stripBackticks (specBefore none spec)

def specOutputName (spec : Str) : Str :=
  match specAfter none spec with
  | some a => stripBackticks a
  | none => specFieldName spec

def isCall (name : Str) : Bool := name.contains '(' && name.contains ')'

def isNestedName (name : Str) : Bool := name.contains '.' || name.contains '['

def isLiteralName (name : Str) : Bool := wrappedIn '\'' name || wrappedIn '"' name

/-- `compileSimpleFieldInfo` (join-alias stripping of the output name does not apply: no JOIN, no FROM alias) -/
def compileField (spec : Str) : FieldInfo :=
  if spec = ['*'] then
    { selectAll := true, fieldName := [], outputName := ['*'], isFunctionCall := false,
      hasNested := false, isLiteral := false, literal := [] }
  else
    { selectAll := false, fieldName := specFieldName spec, outputName := specOutputName spec,
      isFunctionCall := isCall (specFieldName spec),
      hasNested := !isCall (specFieldName spec) && isNestedName (specFieldName spec),
      isLiteral := isLiteralName (specFieldName spec),
      literal := if isLiteralName (specFieldName spec) then inner (specFieldName spec) else [] }

/-! ### configuration handed to the stream (`types.Config`, the part the direct path reads) -/

/-- a SELECT item that went to `FieldExpressions`: a quoted literal, or anything else (opaque) -/
inductive FieldExpr where
  | lit (s : Str)
  | other (text : Str)
  deriving DecidableEq, Repr

structure Config where
  simpleFields : List Str
  fieldExprs : List (Str × FieldExpr)     -- Go map: keys pairwise distinct
  hasOrderBy : Bool := false
  hasUnnest : Bool := false

/-- what the model does not interpret: the WHERE predicate (`s.filter`, nil when there is no WHERE),
non-literal expressions, function-call items, the unnest expansion and the ORDER BY sorter -/
structure Env where
  whereP : Option (Row → Bool)
  exprEval : Str → Row → Value
  unnest : Row → List Row
  sortRows : List Row → List Row

/-- `FieldExpressions[name] = e` while the front end builds the map -/
def setExpr (n : Str) (e : FieldExpr) : List (Str × FieldExpr) → List (Str × FieldExpr)
  | [] => [(n, e)]
  | (n', e') :: rest => if n' = n then (n, e) :: rest else (n', e') :: setExpr n e rest

def isExprName (cfg : Config) (name : Str) : Bool := (cfg.fieldExprs.map Prod.fst).contains name

/-! ### compileOutputNames (direct branch): reject colliding output columns -/

def checkSimple (cfg : Config) : List FieldInfo → List Str → Except Str (List Str)
  | [], seen => .ok seen
  | fi :: rest, seen =>
    if fi.selectAll || isExprName cfg fi.outputName then checkSimple cfg rest seen
    else if seen.contains fi.outputName then .error fi.outputName
    else checkSimple cfg rest (fi.outputName :: seen)

def checkExprs : List Str → List Str → Except Str Unit
  | [], _ => .ok ()
  | n :: rest, seen => if seen.contains n then .error n else checkExprs rest (n :: seen)

/-- `.error name` = Execute fails with "ambiguous output column name" -/
def checkOutputNames (cfg : Config) : Except Str Unit :=
  match checkSimple cfg (cfg.simpleFields.map compileField) [] with
  | .error n => .error n
  | .ok seen => checkExprs (cfg.fieldExprs.map Prod.fst) seen

/-! ### projection -/

def evalFieldExpr (env : Env) (row : Row) : FieldExpr → Value
  | .lit s => .str s
  | .other t => env.exprEval t row

/-- `for fieldName := range FieldExpressions { processExpressionField }` -/
def projectExprs (env : Env) (row : Row) : List (Str × FieldExpr) → Row → Row
  | [], res => res
  | (n, e) :: rest, res => projectExprs env row rest (setKey n (evalFieldExpr env row e) res)

/-- `for k, v := range dataMap { if k is not an expression field { result[k] = v } }` -/
def copyAll (cfg : Config) : Row → Row → Row
  | [], res => res
  | (k, v) :: rest, res => copyAll cfg rest (if isExprName cfg k then res else setKey k v res)

/-- the value of an ordinary (non-literal, non-call) simple field: `exists ? value : nil` -/
def plainValue (fi : FieldInfo) (row : Row) : Except Unit Value :=
  if fi.hasNested then
    match getNestedField (.map row) fi.fieldName with
    | .error e => .error e
    | .ok v => .ok (v.getD .null)
  else .ok ((lookupKey fi.fieldName row).getD .null)

/-- `processSimpleField` -/
def processSimple (cfg : Config) (env : Env) (row : Row) (fi : FieldInfo) (res : Row) : Except Unit Row :=
  if fi.selectAll then .ok (copyAll cfg row res)
  else if isExprName cfg fi.outputName then .ok res
  else if fi.isLiteral then .ok (setKey fi.outputName (.str fi.literal) res)
  else if fi.isFunctionCall then .ok (setKey fi.outputName (env.exprEval fi.fieldName row) res)
  else match plainValue fi row with
    | .error e => .error e
    | .ok v => .ok (setKey fi.outputName v res)

def projectSimple (cfg : Config) (env : Env) (row : Row) : List FieldInfo → Row → Except Unit Row
  | [], res => .ok res
  | fi :: rest, res =>
    match processSimple cfg env row fi res with
    | .error e => .error e
    | .ok res' => projectSimple cfg env row rest res'

/-- `projectDirectRow` for a query without analytic fields -/
def projectDirectRow (cfg : Config) (env : Env) (row : Row) : Except Unit Row :=
  if cfg.simpleFields ≠ [] then
    projectSimple cfg env row (cfg.simpleFields.map compileField) (projectExprs env row cfg.fieldExprs [])
  else if cfg.fieldExprs = [] then .ok (copyAll cfg row [])
  else .ok (projectExprs env row cfg.fieldExprs [])

/-! ### the two direct pipelines -/

/-- `s.filter != nil && !s.filter.Evaluate(dataMap)` negated -/
def passesWhere (env : Env) (row : Row) : Bool :=
  match env.whereP with
  | none => true
  | some p => p row

/-- outcome of processing one row -/
inductive Outcome where
  | filtered
  | result (r : Row)
  | panic

/-- `processDirectDataSync`: what `EmitSync` returns (and hands to the sinks as a one-row batch) -/
def directSync (cfg : Config) (env : Env) (row : Row) : Outcome :=
  if passesWhere env row then
    match projectDirectRow cfg env row with
    | .ok r => .result r
    | .error _ => .panic
  else .filtered

/-- `expandUnnestResults`: the early return when the query has no unnest call -/
def expandUnnest (cfg : Config) (env : Env) (r : Row) : List Row :=
  if cfg.hasUnnest then env.unnest r else [r]

/-- `applyOrderBy` -/
def applyOrderBy (cfg : Config) (env : Env) (rs : List Row) : List Row :=
  if !cfg.hasOrderBy || rs.length < 2 then rs else env.sortRows rs

/-- `processDirectData`: the batches sent to the result channel and to the sinks for one input row
(a panic is recovered by `processItem`: nothing is sent) -/
def directAsync (cfg : Config) (env : Env) (row : Row) : List (List Row) :=
  if passesWhere env row then
    match projectDirectRow cfg env row with
    | .ok r => [applyOrderBy cfg env (expandUnnest cfg env r)]
    | .error _ => []
  else []

/-! ### delivery: input queue, single consumer, sync sinks in registration order, result channel -/

abbrev Batch := List Row

structure DState where
  inQ : List Row := []                     -- dataChan (FIFO)
  chan : List Batch := []                  -- resultChan (FIFO), at most `cap` entries
  sinkLog : List (Nat × Batch) := []       -- (sink number, batch) in invocation order
  received : List Batch := []              -- what the channel's reader has taken so far
  accepted : List Row := []                -- rows that entered `inQ`, in order (ghost)
  processed : List Row := []               -- rows the consumer has taken, in order (ghost)

structure DCfg where
  inCap : Nat          -- DataChannelSize
  chanCap : Nat        -- ResultChannelSize
  nSinks : Nat         -- number of registered synchronous sinks

inductive DOp where
  | emit (row : Row)             -- producer: `Emit` with the drop strategy (non-blocking send)
  | consume (dropOldest : Bool)  -- consumer goroutine: one `processItem`; the flag is the back-pressure
                                 -- branch taken when the result channel is full (usage > 90 % or not)
  | recv                         -- the reader of `ToChannel()` takes one batch

/-- `sendResultNonBlocking` + `handleResultChannelBackpressure` -/
def chanSend (cap : Nat) (dropOldest : Bool) (ch : List Batch) (b : Batch) : List Batch :=
  if ch.length < cap then ch ++ [b]
  else if dropOldest then (ch.drop 1 ++ [b]).take cap
  else ch

/-- `callSinksAsync` for synchronous sinks: each registered sink, in registration order -/
def sinkCalls (n : Nat) (b : Batch) : List (Nat × Batch) := (List.range n).map fun i => (i, b)

def deliver (dc : DCfg) (dropOldest : Bool) (s : DState) (b : Batch) : DState :=
  { s with chan := chanSend dc.chanCap dropOldest s.chan b, sinkLog := s.sinkLog ++ sinkCalls dc.nSinks b }

def deliverAll (dc : DCfg) (dropOldest : Bool) : DState → List Batch → DState
  | s, [] => s
  | s, b :: bs => deliverAll dc dropOldest (deliver dc dropOldest s b) bs

def dstep (cfg : Config) (env : Env) (dc : DCfg) (s : DState) : DOp → DState
  | .emit row =>
    if s.inQ.length < dc.inCap then { s with inQ := s.inQ ++ [row], accepted := s.accepted ++ [row] } else s
  | .consume d =>
    match s.inQ with
    | [] => s
    | row :: rest =>
      deliverAll dc d { s with inQ := rest, processed := s.processed ++ [row] } (directAsync cfg env row)
  | .recv =>
    match s.chan with
    | [] => s
    | b :: rest => { s with chan := rest, received := s.received ++ [b] }

def drun (cfg : Config) (env : Env) (dc : DCfg) : DState → List DOp → DState
  | s, [] => s
  | s, op :: ops => drun cfg env dc (dstep cfg env dc s op) ops

end Pipe
