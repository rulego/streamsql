/-
C10 — Session windows split a key's events at gaps above the timeout, each event once.
Quantified over every timeout, MAXOUTOFORDERNESS, key set and op sequence: all arrival orders (in order, out of
order within the tolerance, bridging events that merge two sessions) and all placements of the expiry pass.
-/
import SsqlVerif.Proofs.SessionRun
import SsqlVerif.Proofs.SessionOrder
import SsqlVerif.Proofs.SessionFlush
set_option autoImplicit false

namespace C10
open Session
open Tumbling (leOpt)

/-- **Each accepted event exactly once (counting form).** Rows in open sessions plus rows in
delivered sessions equal the rows accepted on time — nothing lost, nothing duplicated, whatever
the schedule of expiry passes and whatever sessions were merged on the way.  (The statement fixes
ALLOWEDLATENESS 0 without need: `Session.run_conserve` says the same from any state.) -/
theorem each_once_counting (timeout ooo : Int) (ops : List Op) (x : Row) :
    (openRows (run (init timeout ooo 0) ops).1).count x + (firstRows (run (init timeout ooo 0) ops).2).count x
      = (acceptedRows (init timeout ooo 0) ops).count x := by
  have := run_conserve (init timeout ooo 0) ops x
  simpa [init, openRows] using this

/-- **window_start / window_end.** A delivered session is non-empty, starts at its earliest row and
ends at its latest row plus the timeout. -/
theorem session_bounds (timeout ooo lateness : Int) (ht : 0 < timeout) (ops : List Op) :
    ∀ e ∈ (run (init timeout ooo lateness) ops).2, e.late = false →
      e.rows ≠ [] ∧ (∀ r ∈ e.rows, e.start ≤ r.ts ∧ r.ts + timeout ≤ e.stop) ∧
      (∃ r ∈ e.rows, r.ts = e.start) ∧ (∃ r ∈ e.rows, r.ts + timeout = e.stop) := by
  intro e he hl
  exact (run_firsts (init timeout ooo lateness) ops (inv_init timeout ooo lateness ht) e he hl).1

/-- **Delivered only after the watermark passed the end.** -/
theorem no_early_delivery (timeout ooo lateness : Int) (ht : 0 < timeout) (ops : List Op) :
    ∀ e ∈ (run (init timeout ooo lateness) ops).2, e.late = false →
      leOpt e.stop (run (init timeout ooo lateness) ops).1.wm.cur := by
  intro e he hl
  exact (run_firsts (init timeout ooo lateness) ops (inv_init timeout ooo lateness ht) e he hl).2.2

/-- the gap clause for one delivered session: every row but one at the start has a strictly earlier row of the
session within the timeout, so two rows further apart with nothing in between are never together -/
def GapClause (timeout : Int) (e : Emission) : Prop := Chain timeout e.start e.rows

/-- **Gap clause.** Every delivered session satisfies it — for every arrival order and every
placement of the expiry passes. -/
theorem gap_splits (timeout ooo lateness : Int) (ht : 0 < timeout) (ops : List Op) :
    ∀ e ∈ (run (init timeout ooo lateness) ops).2, e.late = false → GapClause timeout e := by
  intro e he hl
  exact (run_firsts (init timeout ooo lateness) ops (inv_init timeout ooo lateness ht) e he hl).2.1

/-- **Open sessions of one key stay a full timeout apart** (so an event never has two sessions to
choose from, and what is merged is exactly what the event bridges). -/
theorem open_sessions_apart (timeout ooo lateness : Int) (ht : 0 < timeout) (ops : List Op) :
    (run (init timeout ooo lateness) ops).1.sessions.Pairwise
      (fun a b => a.key = b.key → a.stop ≤ b.start ∨ b.stop ≤ a.start) :=
  (inv_run (init timeout ooo lateness) ops (inv_init timeout ooo lateness ht)).hsep

/-- an on-time event joins every open session of its key it touches, and only those -/
theorem joins_exactly_the_touched (w : SWin) (k : Key) (r : Row) (now : Int) (t : Sess) (os : List Sess)
    (h : fate w k r now = .join t os) (s : Sess) :
    s ∈ t :: os ↔ s ∈ w.sessions ∧ s.key = k ∧ s.start - w.timeout < r.ts ∧ r.ts < s.stop := by
  rw [← ((fate_join_iff w k r now t os).mp h).2, mem_touched, touches_iff]

/-- non-vacuity: an in-order gap splits -/
def demoOps : List Op :=
  [.add ['a'] ⟨1, 1000⟩ 1000000, .add ['a'] ⟨2, 1005⟩ 1000000, .add ['a'] ⟨3, 1050⟩ 1000000,
   .add ['b'] ⟨4, 9000⟩ 1000000, .deliver, .deliver, .deliver, .deliver]

example : ((run (init 10 0 0) demoOps).2.map (fun e => (e.key, e.start, e.stop, e.rows.map (·.id))))
    = [(['a'], 1000, 1015, [1, 2]), (['a'], 1050, 1060, [3])] := by decide +kernel

/-- tolerance 100: 100 and 115 open two sessions of key a, then 108 bridges them into one -/
def bridgeOps : List Op :=
  [.add ['a'] ⟨1, 100⟩ 1000000, .add ['a'] ⟨2, 115⟩ 1000000, .add ['a'] ⟨3, 108⟩ 1000000,
   .add ['a'] ⟨4, 5000⟩ 1000000, .deliver, .deliver, .deliver]

example : (run (init 10 100 0) (bridgeOps.take 2)).1.sessions.length = 2 := by decide +kernel
example : ((run (init 10 100 0) bridgeOps).2.map (fun e => (e.start, e.stop, e.rows.map (·.id))))
    = [(100, 125, [1, 2, 3])] := by decide +kernel

/-- **A manual flush (`Streamsql.TriggerWindow`) delivers every open row exactly once and leaves nothing behind**:
from any reachable state it delivers the rows of the open sessions (multiplicities included) in sessions with the
bounds and the gap clause of a session, no session stays open, and the invariant the theorems above rest on holds again. -/
theorem manual_flush (timeout ooo lateness : Int) (ht : 0 < timeout) (ops : List Op) (x : Row) :
    let w := (run (init timeout ooo lateness) ops).1
    (firstRows (flushAll w).2).count x = (openRows w).count x ∧
    (∀ e ∈ (flushAll w).2, e.late = false ∧ EmOk timeout e ∧ Chain timeout e.start e.rows) ∧
    (flushAll w).1.sessions = [] ∧ Inv (flushAll w).1 := by
  intro w
  have hinv : Inv w := inv_run (init timeout ooo lateness) ops (inv_init timeout ooo lateness ht)
  have ht' : w.timeout = timeout := run_timeout (init timeout ooo lateness) ops
  refine ⟨flushAll_rows w x, ?_, flushAll_sessions w, flushAll_inv w hinv⟩
  exact ht' ▸ flushAll_emissions w hinv

example : ((flushAll (run (init 10 0 0) (demoOps.take 3)).1).2.map (fun e => (e.start, e.stop, e.rows.map (·.id))))
    = [(1000, 1015, [1, 2]), (1050, 1060, [3])] := by decide +kernel

/-- what a history has produced: the sessions delivered (first deliveries) and the sessions still open, as
the user sees them (key, window_start, window_end, rows) -/
def outcome (timeout ooo lateness : Int) (ops : List Op) (x : RefS) : Prop :=
  x ∈ (run (init timeout ooo lateness) ops).1.sessions.map Sess.toRef ∨
    x ∈ firstsRef (run (init timeout ooo lateness) ops).2

/-- **The reference sessionization reads only the Adds.** -/
theorem reference_ignores_schedule (timeout : Int) (a b : List Op) (h : addsOf a = addsOf b) :
    reference timeout a = reference timeout b := by
  unfold reference
  rw [foldl_refOp_eq, foldl_refOp_eq, h]

/-- **In-order input is sessionized like the reference, whatever the schedule.**  For every in-order history
without idle ticks — Adds interleaved with ticker runs and expiry passes in any way, the trigger goroutine lagging
arbitrarily — the delivered and the still open sessions together are exactly the reference's sessions. -/
theorem inorder_outcome_is_reference (timeout ooo lateness : Int) (ht : 0 < timeout) (ho : 0 ≤ ooo) (lo : Int)
    (ops : List Op) (hord : InOrderFrom lo ops) :
    ∀ x, x ∈ reference timeout ops ↔ outcome timeout ooo lateness ops x := by
  obtain ⟨hi, hj⟩ := j_run (j_init timeout ooo lateness ht ho lo) ops hord
  exact hj.same

/-- **Schedule independence.**  Two in-order histories with the same Adds — fed fast or slowly, with expiry
passes wherever the scheduler puts them — have produced the same sessions. -/
theorem schedule_independent (timeout ooo lateness : Int) (ht : 0 < timeout) (ho : 0 ≤ ooo) (lo : Int)
    (a b : List Op) (hsame : addsOf a = addsOf b) (ha : InOrderFrom lo a) (hb : InOrderFrom lo b) :
    ∀ x, outcome timeout ooo lateness a x ↔ outcome timeout ooo lateness b x := by
  intro x
  rw [← inorder_outcome_is_reference timeout ooo lateness ht ho lo a ha x,
      ← inorder_outcome_is_reference timeout ooo lateness ht ho lo b hb x,
      reference_ignores_schedule timeout a b hsame]

/-- Once no session of an in-order history is open any more, the delivered sessions are the reference's. -/
theorem delivered_is_reference_after_flush (timeout ooo lateness : Int) (ht : 0 < timeout) (ho : 0 ≤ ooo) (lo : Int)
    (ops : List Op) (hord : InOrderFrom lo ops) (hflushed : (run (init timeout ooo lateness) ops).1.sessions = []) :
    ∀ x, x ∈ reference timeout ops ↔ x ∈ firstsRef (run (init timeout ooo lateness) ops).2 := by
  intro x
  rw [inorder_outcome_is_reference timeout ooo lateness ht ho lo ops hord x]
  unfold outcome
  rw [hflushed]
  simp

/-- two schedules of the same in-order Adds: expiry passes after every Add / only at the end -/
def eagerOps : List Op :=
  [.add ['a'] ⟨1, 1000⟩ 1000000, .deliver, .add ['a'] ⟨2, 1005⟩ 1000000, .deliver,
   .add ['b'] ⟨3, 1007⟩ 1000000, .deliver, .add ['a'] ⟨4, 1050⟩ 1000000, .deliver,
   .add ['b'] ⟨5, 9000⟩ 1000000, .deliver]

def lazyOps : List Op :=
  [.add ['a'] ⟨1, 1000⟩ 1000000, .add ['a'] ⟨2, 1005⟩ 1000000, .tick false 1, .add ['b'] ⟨3, 1007⟩ 1000000,
   .add ['a'] ⟨4, 1050⟩ 1000000, .add ['b'] ⟨5, 9000⟩ 1000000, .deliver, .deliver, .deliver, .deliver, .deliver]
example : InOrderFrom 0 eagerOps ∧ InOrderFrom 0 lazyOps ∧ addsOf eagerOps = addsOf lazyOps := by
  simp [InOrderFrom, eagerOps, lazyOps, addsOf]
example : (reference 10 eagerOps).map (fun x => (x.key, x.start, x.stop, x.rows.map (·.id))) =
    [(['a'], 1000, 1015, [1, 2]), (['b'], 1007, 1017, [3]), (['a'], 1050, 1060, [4]), (['b'], 9000, 9010, [5])] := by
  decide +kernel
example : (firstsRef (run (init 10 0 0) eagerOps).2).length = 3 ∧
    (firstsRef (run (init 10 0 0) lazyOps).2).length = 3 := by
  decide +kernel
/-- out-of-order input is outside the theorem: the engine then merges, the reference does not -/
example : ¬ InOrderFrom 0 bridgeOps := by simp [InOrderFrom, bridgeOps]

end C10
