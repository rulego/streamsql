/-
The structural invariant of the ingest protocol: what each program counter implies about the lock,
the expansion guard and the channels, what holds of the shared state alone, and the frames under
which these survive.
-/
import SsqlVerif.Proofs.Ingest
set_option autoImplicit false

namespace Ingest

/-- what a producer parked at `pc` knows about the shared state -/
def PcOk (c : Cfg) (s : State) (j : Nat) : PC → Prop
  | .idle => True
  | .sendLock att => (c.strat = .drop ∧ att = 0) ∨ c.strat = .expand
  | .sendSend att => s.mig = none ∧ ((c.strat = .drop ∧ att = 0) ∨ c.strat = .expand)
  | .expEnter => c.strat = .expand
  | .expRead => c.strat = .expand ∧ s.expanding = some j
  | .expWLock n => c.strat = .expand ∧ s.expanding = some j ∧ (0 < c.maxCap → n ≤ c.maxCap) ∧
      (∀ ch ∈ s.chans, ch.cap < n)
  | .expMig => c.strat = .expand ∧ s.expanding = some j ∧ ∃ o n, s.mig = some (j, o, n)
  | .expDone => c.strat = .expand ∧ s.expanding = some j
  | .expRetry _ => c.strat = .expand
  | .dropGet => c.strat = .drop
  | .dropRetry _ h => c.strat = .drop ∧ h = 0
  | .blockGet => c.strat = .block
  | .blockSend h => c.strat = .block ∧ h = 0

structure PInv (c : Cfg) (s : State) (j : Nat) (p : Prod) : Prop where
  hid : p.id = j
  hcur : ∀ r, p.cur = some r → r = ⟨j, p.next - 1⟩ ∧ 0 < p.next
  hpc : PcOk c s j p.pc

/-- global invariant (the part that does not mention the producers) -/
structure GCore (c : Cfg) (s : State) : Prop where
  migShape : ∀ j o n, s.mig = some (j, o, n) →
    s.curCh = o ∧ n + 1 = s.chans.length ∧ (∀ o', o = some o' → o' < n) ∧ c.strat = .expand
  curLast : s.mig = none → ∀ h, s.curCh = some h → h + 1 = s.chans.length
  single : c.strat ≠ .expand → s.chans.length = 1
  flags : (s.done = true → s.stopped = true) ∧ (s.curCh = none → s.stopped = true) ∧ (s.exits ≠ [] → s.stopped = true)
  /-- the consumer's read lock excludes a migration: this is what keeps the order -/
  hold : c.consLock = true → ∀ h, s.cons = .cHold h → s.mig = none ∧ s.curCh = some h
  /-- rows sit only in the current channel (also the source of a migration) and in a migration's target -/
  others : ∀ h ch, s.chans[h]? = some ch → ch.buf ≠ [] →
    s.stopped = true ∨ s.curCh = some h ∨ ∃ j o, s.mig = some (j, o, h)
  capsInc : List.Pairwise (· < ·) (s.chans.map (·.cap))
  capsMax : 0 < c.maxCap → ∀ ch ∈ s.chans, ch.cap ≤ max c.maxCap c.cap0
  capsMin : ∀ ch ∈ s.chans, c.cap0 ≤ ch.cap
  noDrop : c.strat = .block → c.timeout = false → s.dropped = []
  nonempty : 0 < s.chans.length
  stopping : s.stopPc ≠ .sIdle → s.stopped = true

structure Inv (c : Cfg) (s : State) : Prop where
  core : GCore c s
  /-- the write lock is held by a producer parked inside the migration -/
  own : ∀ j o n, s.mig = some (j, o, n) → ∃ p, s.prods[j]? = some p ∧ p.pc = .expMig
  p : ∀ (j : Nat) (q : Prod), s.prods[j]? = some q → PInv c s j q

/-- who sends through `safeSendToDataChan`: the drop strategy (first attempt) and the expand strategy -/
def StratSend (c : Cfg) (att : Nat) : Prop := (c.strat = .drop ∧ att = 0) ∨ c.strat = .expand

/-- the row of the Emit call in progress is the last one producer `j` emitted -/
def CurOk (j : Nat) (p : Prod) : Prop := ∀ r, p.cur = some r → r = ⟨j, p.next - 1⟩ ∧ 0 < p.next

theorem GCore.done_stopped {c : Cfg} {s : State} (hg : GCore c s) : s.done = true → s.stopped = true := hg.flags.1

theorem GCore.nil_stopped {c : Cfg} {s : State} (hg : GCore c s) : s.curCh = none → s.stopped = true := hg.flags.2.1

theorem GCore.exits_stopped {c : Cfg} {s : State} (hg : GCore c s) : s.exits ≠ [] → s.stopped = true := hg.flags.2.2

-- `h` is not needed: `ceilCap c n ≠ n` already forces the ceiling branch
set_option linter.unusedVariables false in
theorem ceilCap_le (c : Cfg) (n : Nat) (h : 0 < c.maxCap) (hn : ceilCap c n ≠ n) : ceilCap c n ≤ c.maxCap := by
  unfold ceilCap at *
  split at hn
  · rw [if_pos ‹_›]
    exact Nat.le_refl _
  · exact absurd rfl hn

theorem expandDecision_some {c : Cfg} {cap len n : Nat} (h : expandDecision c cap len = some n) :
    cap < n ∧ (0 < c.maxCap → n ≤ c.maxCap) := by
  obtain ⟨_, h⟩ := ite_none_eq_some h
  obtain ⟨_, h⟩ := ite_none_eq_some h
  obtain ⟨_, h⟩ := ite_none_eq_some h
  obtain ⟨hle, h⟩ := ite_none_eq_some h
  cases h
  refine ⟨Nat.lt_of_not_le hle, fun hm => ?_⟩
  rcases Nat.lt_or_ge c.maxCap (wantCap c cap) with h1 | h1
  · simp only [newCap, ceilCap, hm, h1, and_self, if_true, Nat.le_refl]
  · simp only [newCap, ceilCap, Nat.not_lt.mpr h1, and_false, if_false, h1]

theorem caps_le_last {cs : List Chan} (h : List.Pairwise (· < ·) (cs.map (·.cap))) {k : Nat} {ch : Chan}
    (hk : cs[k]? = some ch) (hl : k + 1 = cs.length) : ∀ x ∈ cs, x.cap ≤ ch.cap := by
  intro x hx
  obtain ⟨j, hj, rfl⟩ := List.mem_iff_getElem.mp hx
  obtain ⟨hk', rfl⟩ := List.getElem?_eq_some_iff.mp hk
  rcases Nat.lt_or_ge j k with hjk | hjk
  · have := List.pairwise_iff_getElem.mp h j k (by simpa using hj) (by simpa using hk') hjk
    simp only [List.getElem_map] at this
    exact Nat.le_of_lt this
  · cases Nat.le_antisymm (Nat.le_of_lt_succ (Nat.lt_of_lt_of_eq hj hl.symm)) hjk
    exact Nat.le_refl _

theorem GCore.noExpansion {c : Cfg} {s : State} (hg : GCore c s) (hne : c.strat ≠ .expand) :
    s.mig = none ∧ ∀ h, s.curCh = some h → h = 0 := by
  have hmn : s.mig = none := by
    cases hm : s.mig with
    | none => rfl
    | some x => exact absurd (hg.migShape x.1 x.2.1 x.2.2 hm).2.2.2 hne
  refine ⟨hmn, fun h hc => ?_⟩
  exact Nat.succ.inj ((hg.curLast hmn h hc).trans (hg.single hne))

theorem GCore.cur_running {c : Cfg} {s : State} (hg : GCore c s) (hst : s.stopped = false) (hm : s.mig = none) :
    ∃ k, s.curCh = some k ∧ k < s.chans.length := by
  obtain ⟨k, hk⟩ := Option.ne_none_iff_exists'.mp fun hc => by simp [hg.nil_stopped hc] at hst
  exact ⟨k, hk, hg.curLast hm k hk ▸ Nat.lt_succ_self k⟩

theorem GCore.decided {c : Cfg} {s : State} {n : Nat} (hg : GCore c s) (hm : s.mig = none)
    (hdec : expandDecision c (curCap s) (curLen s) = some n) : ∀ ch ∈ s.chans, ch.cap < n := by
  have hlt := (expandDecision_some hdec).1
  intro x hx
  cases hc : s.curCh with
  | none => simp [curCap, hc, expandDecision] at hdec
  | some h =>
    cases hch : s.chans[h]? with
    | none => simp [curCap, hc, hch, expandDecision] at hdec
    | some ch =>
      have := caps_le_last hg.capsInc hch (hg.curLast hm h hc) x hx
      simp only [curCap, hc, hch] at hlt
      exact Nat.lt_of_le_of_lt this hlt

theorem Inv.not_owner {c : Cfg} {s : State} {i : Nat} {p : Prod} (hinv : Inv c s) (hp : s.prods[i]? = some p)
    (hpc : p.pc ≠ .expMig) (o : Option Nat) (n : Nat) : s.mig ≠ some (i, o, n) := by
  intro hm
  obtain ⟨pp, hpp, hppc⟩ := hinv.own i o n hm
  rw [hp] at hpp
  cases hpp
  exact hpc hppc

theorem forall_cap_congr {cs cs' : List Chan} (h : cs'.map (·.cap) = cs.map (·.cap)) (P : Nat → Prop)
    (hp : ∀ ch ∈ cs, P ch.cap) : ∀ ch ∈ cs', P ch.cap :=
  List.forall_mem_map.mp (h ▸ List.forall_mem_map.mpr hp)

/-- what may change around a parked producer without invalidating what it knows -/
theorem pcOk_frame {c : Cfg} {s s' : State} {j : Nat} {pc : PC} (h : PcOk c s j pc)
    (he : s.expanding = some j → s'.expanding = some j)
    (hm1 : isRdPc pc = true → s.mig = none → s'.mig = none)
    (hm2 : ∀ o n, s.mig = some (j, o, n) → ∃ o' n', s'.mig = some (j, o', n'))
    (hc : s.expanding = some j → ∀ n, (∀ ch ∈ s.chans, ch.cap < n) → ∀ ch ∈ s'.chans, ch.cap < n) :
    PcOk c s' j pc := by
  cases pc with
  | sendSend att => exact ⟨hm1 rfl h.1, h.2⟩
  | expRead => exact ⟨h.1, he h.2⟩
  | expWLock n => exact ⟨h.1, he h.2.1, h.2.2.1, hc h.2.1 n h.2.2.2⟩
  | expMig =>
    obtain ⟨h1, h2, o, n, h3⟩ := h
    exact ⟨h1, he h2, hm2 o n h3⟩
  | expDone => exact ⟨h.1, he h.2⟩
  | _ => exact h

theorem pcOk_congr {c : Cfg} {s s' : State} {j : Nat} {pc : PC} (h : PcOk c s j pc)
    (h1 : s'.expanding = s.expanding) (h2 : s'.mig = s.mig) (h3 : s'.chans.map (·.cap) = s.chans.map (·.cap)) :
    PcOk c s' j pc :=
  pcOk_frame h (h1 ▸ id) (fun _ => h2 ▸ id) (fun o n hm => ⟨o, n, h2 ▸ hm⟩)
    fun _ n => forall_cap_congr h3 (· < n)

/-- what entitles a producer to its next place -/
def NxOk (c : Cfg) (s : State) (i : Nat) : Next → Prop
  | .goto pc => PcOk c s i pc ∧ pc ≠ .idle
  | .drop => ¬ (c.strat = .block ∧ c.timeout = false)
  | .exit => s.stopped = true

theorem NxOk.nonIdle {c : Cfg} {s : State} {i : Nat} {nx : Next} (h : NxOk c s i nx) : nx.nonIdle := by
  cases nx with
  | goto pc => exact h.2
  | _ => trivial

theorem GCore.apply {c : Cfg} {s0 : State} {i : Nat} {nx : Next} {p : Prod} (hg : GCore c s0)
    (hnx : NxOk c s0 i nx) : GCore c (nx.apply s0 i p) := by
  cases nx with
  | goto pc => exact { hg with }
  | drop => exact { hg with noDrop := fun hb ht => absurd ⟨hb, ht⟩ hnx }
  | exit => exact { hg with flags := ⟨hg.done_stopped, hg.nil_stopped, fun _ => hnx⟩ }

theorem GCore.chans {c : Cfg} {s : State} (hg : GCore c s) {cs : List Chan} (prods : List Prod) (processed : List Row)
    (hcaps : cs.map (·.cap) = s.chans.map (·.cap))
    (hrest : ∀ h ch, cs[h]? = some ch → ch.buf ≠ [] →
      s.stopped = true ∨ s.curCh = some h ∨ ∃ j o, s.mig = some (j, o, h)) :
    GCore c { s with chans := cs, prods := prods, processed := processed } :=
  have hlen : cs.length = s.chans.length := by simpa using congrArg List.length hcaps
  { hg with
    migShape := hlen ▸ hg.migShape
    curLast := hlen ▸ hg.curLast
    single := hlen ▸ hg.single
    others := hrest
    capsInc := hcaps ▸ hg.capsInc
    capsMax := fun hm => forall_cap_congr hcaps (· ≤ max c.maxCap c.cap0) (hg.capsMax hm)
    capsMin := forall_cap_congr hcaps (c.cap0 ≤ ·) hg.capsMin
    nonempty := hlen ▸ hg.nonempty }

theorem map_cap_set {cs : List Chan} {h : Nat} {ch : Chan} (ch' : Chan) (hc : cs[h]? = some ch) (hcap : ch'.cap = ch.cap) :
    (cs.set h ch').map (·.cap) = cs.map (·.cap) := by
  obtain ⟨_, rfl⟩ := List.getElem?_eq_some_iff.mp hc
  rw [List.map_set, hcap, ← List.map_set, List.set_getElem_self]

theorem others_set {s : State} (hs : ∀ h ch, s.chans[h]? = some ch → ch.buf ≠ [] →
      s.stopped = true ∨ s.curCh = some h ∨ ∃ j o, s.mig = some (j, o, h))
    {k : Nat} {ck : Chan} (ck' : Chan) (hk : s.chans[k]? = some ck)
    (hok : ck'.buf ≠ [] → s.stopped = true ∨ s.curCh = some k ∨ ∃ j o, s.mig = some (j, o, k)) :
    ∀ h ch, (s.chans.set k ck')[h]? = some ch → ch.buf ≠ [] →
      s.stopped = true ∨ s.curCh = some h ∨ ∃ j o, s.mig = some (j, o, h) := by
  intro h ch hh hne
  by_cases hkh : h = k
  · subst hkh
    rw [getElem?_set_of_some _ hk] at hh
    cases hh
    exact hok hne
  · rw [List.getElem?_set_ne (Ne.symm hkh)] at hh
    exact hs h ch hh hne

theorem inv_set {c : Cfg} {s0 s' : State} {i : Nat} {q p0 : Prod}
    (hcore : GCore c s')
    (hprods : s'.prods = s0.prods.set i q) (hi : s0.prods[i]? = some p0)
    (hmig : s'.mig = s0.mig) (hexp : s'.expanding = s0.expanding)
    (hcaps : s'.chans.map (·.cap) = s0.chans.map (·.cap))
    (hq : PInv c s0 i q)
    (hrest : ∀ (j : Nat) (r : Prod), j ≠ i → s0.prods[j]? = some r → PInv c s0 j r)
    (hown : ∀ j o n, s0.mig = some (j, o, n) →
      (j = i → q.pc = .expMig) ∧ (j ≠ i → ∃ pp, s0.prods[j]? = some pp ∧ pp.pc = .expMig)) :
    Inv c s' := by
  refine ⟨hcore, ?_, ?_⟩
  · intro j o n hm
    rw [hmig] at hm
    obtain ⟨h1, h2⟩ := hown j o n hm
    by_cases hji : j = i
    · subst hji
      exact ⟨q, hprods ▸ getElem?_set_of_some _ hi, h1 rfl⟩
    · obtain ⟨pp, hpp, hpc⟩ := h2 hji
      refine ⟨pp, ?_, hpc⟩
      rw [hprods, List.getElem?_set_ne (Ne.symm hji)]
      exact hpp
  · intro j qq hj
    rw [hprods] at hj
    by_cases hji : j = i
    · subst hji
      rw [getElem?_set_of_some _ hi] at hj
      cases hj
      exact ⟨hq.hid, hq.hcur, pcOk_congr hq.hpc hexp hmig hcaps⟩
    · rw [List.getElem?_set_ne (Ne.symm hji)] at hj
      have := hrest j qq hji hj
      exact ⟨this.hid, this.hcur, pcOk_congr this.hpc hexp hmig hcaps⟩

/-- `s0` is the state before the step with the control fields the step changes already set -/
theorem inv_apply {c : Cfg} {s s0 : State} {i : Nat} {p p0 : Prod} {nx : Next} (hinv : Inv c s)
    (hprods : s0.prods = s.prods) (hg : GCore c s0) (hi : s.prods[i]? = some p0)
    (hid : p.id = i) (hcur : CurOk i p)
    (hrest : ∀ (j : Nat) (q : Prod), j ≠ i → s.prods[j]? = some q → PcOk c s j q.pc → PcOk c s0 j q.pc)
    (hnx : NxOk c s0 i nx)
    (hown : ∀ j o n, s0.mig = some (j, o, n) →
      (j = i → (nx.record p).pc = .expMig) ∧ (j ≠ i → ∃ pp, s0.prods[j]? = some pp ∧ pp.pc = .expMig)) :
    Inv c (nx.apply s0 i p) := by
  rw [← hprods] at hi
  refine inv_set (hg.apply hnx) (apply_prods s0 i p nx) hi
    (by cases nx <;> rfl) (by cases nx <;> rfl) (by cases nx <;> rfl) ?_ (fun j q hji hq => ?_) hown
  · cases nx with
    | goto pc => exact ⟨hid, hcur, hnx.1⟩
    | _ => exact ⟨hid, nofun, trivial⟩
  · rw [hprods] at hq
    have hQ := hinv.p j q hq
    exact ⟨hQ.hid, hQ.hcur, hrest j q hji hq hQ.hpc⟩

theorem Inv.frame {c : Cfg} {s s' : State} (hinv : Inv c s) (hcore : GCore c s') (hprods : s'.prods = s.prods)
    (hmig : s'.mig = s.mig) (hexp : s'.expanding = s.expanding)
    (hcaps : s'.chans.map (·.cap) = s.chans.map (·.cap)) : Inv c s' := by
  refine ⟨hcore, ?_, ?_⟩
  · rw [hmig, hprods]
    exact hinv.own
  · intro j q hq
    rw [hprods] at hq
    have := hinv.p j q hq
    exact ⟨this.hid, this.hcur, pcOk_congr this.hpc hexp hmig hcaps⟩

end Ingest
