/-
C10, last clause: for in-order input the outcome of a session query does not depend on where ticker and expiry passes
fall between the Adds.  The invariant `J` ties the window to `reference`, a function of the Adds alone.
-/
import SsqlVerif.Proofs.SessionRun
import SsqlVerif.Proofs.WatermarkBound
import SsqlVerif.Spec.SessionRef
set_option autoImplicit false

namespace Session
open Wm
open Tumbling (leOpt)

/-- first deliveries as the user sees them -/
def firstsRef (es : List Emission) : List RefS := (es.filter (fun e => !e.late)).map Emission.toRef

theorem firstsRef_append (a b : List Emission) : firstsRef (a ++ b) = firstsRef a ++ firstsRef b := by
  simp only [firstsRef, List.filter_append, List.map_append]

theorem firstsRef_map_emit (l : List Sess) : firstsRef (l.map Sess.emit) = l.map Sess.toRef := by
  induction l with
  | nil => rfl
  | cons a l ih => exact congrArg (a.toRef :: ·) ih

/-- The window `w` and the emissions `E` it has produced so far agree, as sets, with `R`, the reference's sessions
for the Adds so far.  `hi` bounds every timestamp seen so far and, through `maxle`, `bnd` and `ooo`, the watermark. -/
structure J (w : SWin) (E : List Emission) (R : List RefS) (hi : Int) : Prop where
  inv : Inv w
  ooo : 0 ≤ w.wm.maxOOO
  bnd : Bnd w.wm
  maxle : ∀ m, w.wm.maxEv = some m → m ≤ hi
  openle : ∀ s ∈ w.sessions, s.lastActive ≤ hi
  donele : ∀ x ∈ firstsRef E, x.stop ≤ hi
  same : ∀ x, x ∈ R ↔ (x ∈ w.sessions.map Sess.toRef ∨ x ∈ firstsRef E)

theorem J.cur_le {w : SWin} {E : List Emission} {R : List RefS} {hi : Int} (h : J w E R hi) :
    ∀ c, w.wm.cur = some c → c ≤ hi := by
  intro c hc
  obtain ⟨m, hm, hle⟩ := h.bnd c hc
  exact Int.le_trans hle (Int.le_trans (Int.sub_le_self m h.ooo) (h.maxle m hm))

theorem J.start_le {w : SWin} {E : List Emission} {R : List RefS} {hi : Int} (h : J w E R hi) {s : Sess}
    (hs : s ∈ w.sessions) : s.start ≤ hi :=
  Int.le_trans (h.inv.hok s hs).start_le_last (h.openle s hs)

theorem updateEventTime_maxEv_le (w : Wm.Wm) (ts now : Int) (h : ∀ m, w.maxEv = some m → m ≤ ts) :
    ∀ m, (updateEventTime w ts now).maxEv = some m → m ≤ ts := by
  fun_cases updateEventTime w ts now
  case case1 => exact h  -- too far ahead
  case case2 =>
    rw [send_maxEv]
    fun_cases bumpMax w ts
    case case1 => exact fun m hm => Int.le_of_eq (Option.some.inj hm).symm  -- new maximum
    case case2 => exact h

section add
variable {w : SWin} {E : List Emission} {R : List RefS} {hi : Int} (h : J w E R hi) (k : Key) (r : Row) (hle : hi ≤ r.ts)
include h hle

theorem j_add_wm (now : Int) : J { w with wm := wmAfter w r now } E R r.ts :=
  { h with
    ooo := (updateEventTime_maxOOO _ _ _).symm ▸ h.ooo
    bnd := bnd_updateEventTime w.wm r.ts now h.bnd
    maxle := updateEventTime_maxEv_le w.wm r.ts now fun m hm => Int.le_trans (h.maxle m hm) hle
    openle := fun s hs => Int.le_trans (h.openle s hs) hle
    donele := fun x hx => Int.le_trans (h.donele x hx) hle
    inv := { h.inv with hchan := (Move.update _ _ _).chan h.inv.hchan } }

theorem inorder_not_late (now : Int) : lateNow w r now = false := by
  unfold lateNow isLate
  split
  · rfl
  · rename_i c hc
    exact decide_eq_false (Int.not_lt.mpr ((j_add_wm h r hle now).cur_le c hc))

/-- in-order rows are never before a session's first event -/
theorem hits_toRef (s : Sess) (hs : s ∈ w.sessions) : hits k r.ts s.toRef = touches w.timeout k r.ts s := by
  have : decide (s.start - w.timeout < r.ts) = true :=
    decide_eq_true (Int.lt_of_lt_of_le (Int.sub_lt_self _ h.inv.htime) (Int.le_trans (h.start_le hs) hle))
  unfold touches hits Sess.toRef
  rw [this, Bool.and_true]

theorem hits_done (x : RefS) (hx : x ∈ firstsRef E) : hits k r.ts x = false := by
  simp only [hits, decide_eq_false (Int.not_lt.mpr (Int.le_trans (h.donele x hx) hle)), Bool.and_false]

/-- two touched sessions of the key are apart, yet the row is before both ends and neither starts after it -/
theorem touched_le_one (a b : Sess) (rest : List Sess) : touched w k r ≠ a :: b :: rest := by
  intro ht
  have hT : ∀ s ∈ touched w k r, s.key = k ∧ r.ts < s.stop ∧ s.start ≤ r.ts := fun s hs =>
    have ⟨hs, hts⟩ := (mem_touched w k r s).mp hs
    have ⟨hk, _, hst⟩ := (touches_iff _ _ _ _).mp hts
    ⟨hk, hst, Int.le_trans (h.start_le hs) hle⟩
  have hpw : (touched w k r).Pairwise SameKeyApart :=
    ((perm_sortSess _).pairwise_iff (fun {a b} => sameKeyApart_symm a b)).mpr (h.inv.hsep.filter _)
  rw [ht] at hpw hT
  obtain ⟨hka, hra, hsa⟩ := hT a List.mem_cons_self
  obtain ⟨hkb, hrb, hsb⟩ := hT b (List.mem_cons_of_mem _ List.mem_cons_self)
  rcases (List.pairwise_cons.mp hpw).1 b List.mem_cons_self (hka.trans hkb.symm) with h1 | h1
  · exact Int.lt_irrefl _ (Int.lt_of_lt_of_le hra (Int.le_trans h1 hsb))
  · exact Int.lt_irrefl _ (Int.lt_of_lt_of_le hrb (Int.le_trans h1 hsa))

theorem fuse_single_toRef (p : Nat) (t : Sess) (hs : t ∈ w.sessions) (hk : t.key = k) :
    (fuse k p w.timeout [t] r).toRef = extend w.timeout r t.toRef := by
  have hl : maxLast [t] r.ts = r.ts := if_neg (Int.not_lt.mpr (Int.le_trans (h.openle t hs) hle))
  have hst : minStart [t] r.ts = t.start := by
    show (if t.start < r.ts then t.start else r.ts) = t.start
    rcases Int.lt_or_eq_of_le (Int.le_trans (h.start_le hs) hle) with hlt | heq
    · exact if_pos hlt
    · rw [heq]
      exact ite_self _
  show RefS.mk k (minStart [t] r.ts) (maxLast [t] r.ts + w.timeout) ([t].flatMap (·.rows) ++ [r]) =
    RefS.mk t.key t.start (r.ts + w.timeout) (t.rows ++ [r])
  rw [hl, hst, hk, List.flatMap_singleton]

/-- An in-order row is not late and touches at most one open session, and touching is what the reference calls a
hit: `stepAdd` and `refAdd` do the same thing. -/
theorem j_add (now : Int) :
    J (stepAdd w k r now).1 (E ++ (stepAdd w k r now).2) (refAdd w.timeout R k r) r.ts := by
  obtain ⟨hem, p, hs⟩ := stepAdd_ontime w k r now (inorder_not_late h r hle now)
  have base := j_add_wm h r hle now
  have hhit := hits_toRef h k r hle
  have hdone := hits_done h k r hle
  have hS : ∀ s ∈ w.sessions, s.toRef ∈ R := fun s hs => (h.same _).mpr (.inl (List.mem_map.mpr ⟨s, hs, rfl⟩))
  have hT : ∀ s ∈ w.sessions, hits k r.ts s.toRef = true → s ∈ touched w k r := fun s hs hh =>
    (mem_touched w k r s).mpr ⟨hs, hhit s hs ▸ hh⟩
  have hlast : (fuse k p w.timeout (touched w k r) r).lastActive ≤ r.ts := by
    show maxLast (touched w k r) r.ts ≤ r.ts
    rcases (maxLast_spec (touched w k r) r.ts).2 with e | ⟨s, hs, e⟩
    · exact Int.le_of_eq e
    · exact e ▸ base.openle s ((mem_touched w k r s).mp hs).1
  rw [hem, List.append_nil]
  refine { base with inv := inv_add w k r now h.inv, openle := ?_, same := fun x => ?_ }
  · intro s hs'
    rw [hs] at hs'
    rcases List.mem_append.mp hs' with hs' | hs'
    · exact base.openle s (List.mem_filter.mp hs').1
    · exact List.mem_singleton.mp hs' ▸ hlast
  rw [hs]
  rcases hT' : touched w k r with _ | ⟨t, _ | ⟨b, rest⟩⟩
  · -- nothing touched
    have hany : R.any (hits k r.ts) = false := by
      rw [List.any_eq_false]
      intro y hy hc
      rcases (h.same y).mp hy with hy' | hy'
      · obtain ⟨s, hs, rfl⟩ := List.mem_map.mp hy'
        have := hT s hs hc
        rw [hT'] at this
        cases this
      · rw [hdone y hy'] at hc
        cases hc
    simp only [refAdd, hany, Bool.false_eq_true, if_false, filter_untouched hT', List.map_append, List.mem_append,
      h.same x]
    exact or_right_comm
  · -- one session touched
    obtain ⟨htS, htt⟩ := (mem_touched w k r t).mp (hT' ▸ List.mem_singleton_self t)
    have hth : hits k r.ts t.toRef = true := hhit t htS ▸ htt
    have hany : R.any (hits k r.ts) = true := List.any_eq_true.mpr ⟨_, hS t htS, hth⟩
    simp only [refAdd, hany, if_true, List.map_append, List.mem_append, List.mem_map, List.mem_singleton,
      List.map_cons, List.map_nil, List.mem_filter, fuse_single_toRef h k r hle p t htS ((touches_iff _ _ _ _).mp htt).1]
    constructor
    · rintro ⟨y, hy, rfl⟩
      cases hyh : hits k r.ts y
      · rw [if_neg Bool.false_ne_true]
        rcases (h.same y).mp hy with hy' | hy'
        · obtain ⟨s, hs, rfl⟩ := List.mem_map.mp hy'
          have hnt : (!touches w.timeout k r.ts s) = true := by
            rw [← hhit s hs, hyh]
            rfl
          exact .inl (.inl ⟨s, ⟨hs, hnt⟩, rfl⟩)
        · exact .inr hy'
      · rw [if_pos rfl]
        rcases (h.same y).mp hy with hy' | hy'
        · obtain ⟨s, hs, rfl⟩ := List.mem_map.mp hy'
          have := hT s hs hyh
          rw [hT', List.mem_singleton] at this
          exact .inl (.inr (this ▸ rfl))
        · rw [hdone y hy'] at hyh
          cases hyh
    · rintro ((⟨s, ⟨hs, hsh⟩, rfl⟩ | rfl) | hx)
      · refine ⟨_, hS s hs, if_neg ?_⟩
        rw [hhit s hs]
        simpa using hsh
      · exact ⟨_, hS t htS, if_pos hth⟩
      · have hnh : ¬hits k r.ts x = true := by
          rw [hdone x hx]
          exact Bool.false_ne_true
        exact ⟨x, (h.same x).mpr (.inr hx), if_neg hnh⟩
  · exact absurd hT' (touched_le_one h k r hle t b rest)  -- two touched: impossible

end add

theorem j_tick_not_idle {w : SWin} {E : List Emission} {R : List RefS} {hi : Int} (h : J w E R hi) (now : Int) :
    J { w with wm := Wm.tick w.wm false now } E R hi :=
  { h with
    inv := inv_step w (.tick false now) h.inv
    ooo := (tick_maxOOO _ _ _).symm ▸ h.ooo
    bnd := bnd_tick w.wm now h.bnd
    maxle := fun m hm => h.maxle m (tick_maxEv _ _ _ ▸ hm) }

theorem j_expire {w : SWin} {E : List Emission} {R : List RefS} {hi : Int} (h : J w E R hi) (x : Int) (hx : x ≤ hi) :
    J (stepExpire w x).1 (E ++ (stepExpire w x).2) R hi := by
  have hem : firstsRef (stepExpire w x).2 = (sortSess (w.sessions.filter (expiredBy w x))).map Sess.toRef := by
    rw [stepExpire_emits, firstsRef_map_emit]
  refine { h with inv := inv_expire w x h.inv, openle := fun s hs => h.openle s (List.mem_filter.mp hs).1,
                  donele := ?_, same := ?_ }
  · intro y hy
    rw [firstsRef_append, List.mem_append, hem] at hy
    rcases hy with hy | hy
    · exact h.donele y hy
    · obtain ⟨s, hs, rfl⟩ := List.mem_map.mp hy
      obtain ⟨hs, he⟩ := List.mem_filter.mp ((mem_sortSess _ _).mp hs)
      exact Int.le_trans (stop_le_of_expired (h.inv.hok s hs) he) hx
  · intro y
    have := ((perm_split w.sessions (expiredBy w x)).map Sess.toRef).mem_iff (a := y)
    rw [h.same y, firstsRef_append, List.mem_append, hem, ← this, List.map_append, List.mem_append]
    exact or_assoc.trans (or_congr_right or_comm)

theorem j_deliver {w : SWin} {E : List Emission} {R : List RefS} {hi : Int} (h : J w E R hi) :
    J (stepDeliver w).1 (E ++ (stepDeliver w).2) R hi := by
  fun_cases stepDeliver w
  case case1 => exact (List.append_nil E).symm ▸ h  -- channel empty
  case case2 x wm' hp =>
    obtain ⟨c, hc, hxc⟩ := popped_le_cur h.inv hp
    obtain ⟨hmax, hooo⟩ := pop_maxEv _ _ _ hp
    have hJ : J { w with wm := wm' } E R hi :=
      { h with inv := inv_pop h.inv hp, ooo := hooo ▸ h.ooo, bnd := bnd_pop _ _ _ h.bnd hp,
               maxle := fun m hm => h.maxle m (hmax ▸ hm) }
    exact j_expire hJ x (Int.le_trans hxc (hJ.cur_le c hc))

theorem j_step {w : SWin} {E : List Emission} {R : List RefS} {hi : Int} (h : J w E R hi) (op : Op) (ops : List Op)
    (hord : InOrderFrom hi (op :: ops)) :
    ∃ hi', J (step w op).1 (E ++ (step w op).2) (refOp w.timeout R op) hi' ∧ InOrderFrom hi' ops := by
  cases op with
  | add k r now => exact ⟨r.ts, j_add h k r hord.1 now, hord.2⟩
  | addNoTs => exact ⟨hi, (List.append_nil E).symm ▸ h, hord⟩
  | tick idle now =>
    obtain ⟨rfl, hrest⟩ := hord
    exact ⟨hi, (List.append_nil E).symm ▸ j_tick_not_idle h now, hrest⟩
  | deliver => exact ⟨hi, j_deliver h, hord⟩

theorem j_run {w : SWin} {E : List Emission} {R : List RefS} {hi : Int} (h : J w E R hi) (ops : List Op)
    (hord : InOrderFrom hi ops) :
    ∃ hi', J (run w ops).1 (E ++ (run w ops).2) (ops.foldl (refOp w.timeout) R) hi' := by
  induction ops generalizing w E R hi with
  | nil => exact ⟨hi, (List.append_nil E).symm ▸ h⟩
  | cons op ops ih =>
    obtain ⟨hi', hj, hrest⟩ := j_step h op ops hord
    obtain ⟨hi'', hj'⟩ := ih hj hrest
    rw [(step_config w op).1, List.append_assoc] at hj'
    exact ⟨hi'', hj'⟩

/-- nothing has been seen yet: any `lo` is a bound -/
theorem j_init (timeout ooo lateness : Int) (ht : 0 < timeout) (ho : 0 ≤ ooo) (lo : Int) :
    J (init timeout ooo lateness) [] [] lo :=
  { inv := inv_init timeout ooo lateness ht, ooo := ho
    bnd := fun _ hc => nomatch hc
    maxle := fun _ hm => nomatch hm
    openle := fun _ hs => absurd hs List.not_mem_nil
    donele := fun _ hx => absurd hx List.not_mem_nil
    same := fun x => by simp [init, firstsRef] }

theorem foldl_refOp_eq (timeout : Int) (ops : List Op) (acc : List RefS) :
    ops.foldl (refOp timeout) acc = (addsOf ops).foldl (fun a kr => refAdd timeout a kr.1 kr.2) acc := by
  induction ops generalizing acc with
  | nil => rfl
  | cons op ops ih => cases op <;> simp [addsOf, refOp, ih]

end Session
