/-
C09 — Counting windows emit, per key, consecutive batches of exactly N rows.
An op list is one schedule of the window goroutine's critical sections: one `row` per row taken
from the FIFO `triggerChan`, so the theorems range over every interleaving of keys.
-/
import SsqlVerif.Proofs.Counting
import SsqlVerif.Proofs.GroupKeyTyped
import SsqlVerif.Generated.Facts
set_option autoImplicit false

namespace C09
open Counting CountingSpec

/-- For every threshold N ≥ 1, every history without STATETTL reaping and every (encoded) key:
the results delivered for the key are, in order, the full chunks of N of that key's rows in
arrival order — result i aggregates rows (i-1)·N+1 … i·N. -/
theorem counting_eq_chunks {σ ρ : Type} [DecidableEq σ] (n : Nat) (hn : 0 < n)
    (ops : List (Op σ ρ)) (hnr : noReap ops = true) (k : σ) :
    emissionsOf (run n [] ops) k = fullChunks n (rowsOfOps ops k) :=
  run_eq_chunks_gen n ops hnr [] (fun _ => hn) k

/-- Rows of other keys interleaved in between have no influence: two histories with the same
rows of key `k` (in the same order) deliver the same results for `k`. -/
theorem counting_interleaving_irrelevant {σ ρ : Type} [DecidableEq σ] (n : Nat) (hn : 0 < n)
    (ops ops' : List (Op σ ρ)) (h1 : noReap ops = true) (h2 : noReap ops' = true) (k : σ)
    (hk : rowsOfOps ops k = rowsOfOps ops' k) :
    emissionsOf (run n [] ops) k = emissionsOf (run n [] ops') k := by
  rw [counting_eq_chunks n hn ops h1, counting_eq_chunks n hn ops' h2, hk]

/-- Fewer than N rows of a key never produce a result for it. -/
theorem counting_lt_N_silent {σ ρ : Type} [DecidableEq σ] (n : Nat) (hn : 0 < n)
    (ops : List (Op σ ρ)) (hnr : noReap ops = true) (k : σ) (hlt : (rowsOfOps ops k).length < n) :
    emissionsOf (run n [] ops) k = [] := by
  rw [counting_eq_chunks n hn ops hnr, fullChunks_short n _ hlt]

/-- Every result aggregates exactly N rows. -/
theorem counting_batches_have_N {σ ρ : Type} [DecidableEq σ] (n : Nat) (hn : 0 < n)
    (ops : List (Op σ ρ)) (hnr : noReap ops = true) (k : σ) :
    ∀ b ∈ emissionsOf (run n [] ops) k, b.length = n := by
  rw [counting_eq_chunks n hn ops hnr]
  exact chunk_length n _

/-- No row contributes to two results, none is skipped: the results of a key, concatenated, are
exactly the first ⌊m/N⌋·N of its m rows (only the trailing m mod N rows are still waiting). -/
theorem counting_no_row_twice {σ ρ : Type} [DecidableEq σ] (n : Nat) (hn : 0 < n)
    (ops : List (Op σ ρ)) (hnr : noReap ops = true) (k : σ) :
    (emissionsOf (run n [] ops) k).flatten
      = (rowsOfOps ops k).take ((rowsOfOps ops k).length / n * n) := by
  rw [counting_eq_chunks n hn ops hnr]
  exact fullChunks_flatten n _

open GroupKey GroupBy in
/-- Tuple level (with C04's injectivity of the repaired `getKey`): rows keyed by typed GROUP BY
tuples (one scalar type per column, NULL = missing normalised) — the results delivered under the
key of tuple `t` are the full chunks of the rows whose tuple is `t`. -/
theorem counting_eq_chunks_tuple {ρ : Type} (n : Nat) (hn : 0 < n) (rows : List (List Val × ρ))
    (t : List Val) (hNt : normTuple t = t) (hN : ∀ r ∈ rows, normTuple r.1 = r.1)
    (hT : ∀ r ∈ rows, sameTypeT r.1 t = true ∧ fltOkT r.1 t) :
    emissionsOf (run n [] (rows.map fun x => Op.row (encCounting x.1) x.2)) (encCounting t)
      = fullChunks n (rowsOf rows t) := by
  rw [counting_eq_chunks n hn _ (noReap_map_row encCounting rows), rowsOfOps_map_row, rowsOf]
  refine congrArg (fun l : List (List Val × ρ) => fullChunks n (l.map Prod.snd))
    (List.filter_congr fun r hr => ?_)
  refine decide_eq_decide.2 ⟨fun h => ?_, congrArg encCounting⟩
  rw [← hN r hr, ← hNt]
  exact encWindow_map_injective _ renderCast renderCast_injective r.1 t (hT r hr).1 (hT r hr).2 h

/-! ### qualified GROUP BY columns (recorded finding `qualified-group-column`)

Full statement: the window key determines the tuple of group values, whichever GROUP BY columns
are dotted paths.  It fails on the code as it is (a qualified column always contributes NULL), so
with `GROUP BY m.location, CountingWindow(N)` all groups share one count buffer.  What holds is
the partial statement under the decidable hypothesis "no GROUP BY column is qualified" — the
hypothesis under which `counting_eq_chunks_tuple` speaks about real group tuples. -/

def windowKey_determines_group_full : Prop :=
  ∀ (qualified : List Bool) (t t' : List GroupKey.Val), t.length = t'.length →
    windowTuple GroupKey.Val.null qualified t = windowTuple GroupKey.Val.null qualified t' → t = t'

theorem windowKey_determines_group_partial (qualified : List Bool)
    (H : qualified.all (fun q => !q) = true) (t : List GroupKey.Val) :
    windowTuple GroupKey.Val.null qualified t = t := by
  induction qualified generalizing t with
  | nil => cases t <;> rfl
  | cons q qs ih =>
    simp only [List.all_cons, Bool.and_eq_true, Bool.not_eq_true'] at H
    cases t with
    | nil => rfl
    | cons v vs => simp [windowTuple, H.1, ih H.2 vs]

theorem windowKey_determines_group_fails : ¬ windowKey_determines_group_full := by
  intro h
  exact absurd (h [true] [.str ['a']] [.str ['b']] rfl rfl) (by decide)

-- N = 2: groups a and b under one qualified column share a buffer, and the batch mixes them
example : run 2 [] [Op.row (GroupKey.encCounting (windowTuple .null [true] [.str ['a']])) 1,
                    Op.row (GroupKey.encCounting (windowTuple .null [true] [.str ['b']])) 2]
    = [(GroupKey.encCounting [.null], [1, 2])] := by decide +kernel

-- N = 2, keys a/b interleaved: a gets [1,3] then [5,7]; b gets [2,4]; 9 (a) and 6 (b) keep waiting
example : run 2 [] [Op.row 'a' 1, .row 'b' 2, .row 'a' 3, .row 'b' 4, .row 'a' 5, .row 'b' 6, .row 'a' 7, .row 'a' 9]
    = [('a', [1, 3]), ('b', [2, 4]), ('a', [5, 7])] := by decide +kernel
example : fullChunks 2 [1, 3, 5, 7, 9] = [[1, 3], [5, 7]] := by decide +kernel
example : fullChunks 1 [4, 5] = [[4], [5]] ∧ fullChunks 3 [4, 5] = [] := by decide +kernel
-- the hypothesis "no key state is reaped" is needed: a reap between the rows loses row 1
example : emissionsOf (run 2 [] [Op.row 'a' 1, .reap ['a'], .row 'a' 3, .row 'a' 5]) 'a' = [[3, 5]] ∧
    fullChunks 2 [1, 3, 5] = [[1, 3]] := by decide +kernel

end C09

/-! tie to the source: the integer literals of the goroutine loop (`countStateTTL > 0`, `/ 2`,
`make(…, 0, threshold)` — no `threshold ± 1`) and the no-key constant -/
theorem C09.facts_counting :
    Facts.window_CountingWindow_Start_intlits = [0, 2, 0] ∧
    Facts.window_CountingWindow_getKey_strlits = ["__global__"] :=
  ⟨rfl, rfl⟩
