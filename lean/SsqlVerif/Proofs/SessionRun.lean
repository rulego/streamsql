/-
Runs of the session state machine: the invariant `Inv` and its preservation by every op, conservation of rows along
a run, and what every first delivery of a run satisfies.
-/
import SsqlVerif.Proofs.Session
import SsqlVerif.Proofs.Watermark
set_option autoImplicit false

namespace Session
open Wm
open Tumbling (leOpt)

/-- the gap clause, stated without sorting: every row except one at `start` has a strictly earlier row of the same
session within the timeout -/
def Chain (timeout start : Int) (rows : List Row) : Prop :=
  ∀ r ∈ rows, r.ts = start ∨ ∃ r' ∈ rows, r'.ts < r.ts ∧ r.ts - r'.ts ≤ timeout

/-- two sessions a full timeout apart: one ends (last event + timeout) at or before the other starts -/
def Apart (a b : Sess) : Prop := a.stop ≤ b.start ∨ b.stop ≤ a.start

def SameKeyApart (a b : Sess) : Prop := a.key = b.key → Apart a b

theorem sameKeyApart_symm (a b : Sess) (h : SameKeyApart a b) : SameKeyApart b a :=
  fun hk => (h hk.symm).symm

theorem exists_pred (timeout : Int) (s : Sess) (hok : SessOk timeout s) (hc : Chain timeout s.start s.rows)
    (t : Int) (h1 : s.start < t) (h2 : t < s.stop) :
    ∃ r' ∈ s.rows, r'.ts < t ∧ t - r'.ts ≤ timeout := by
  -- from a row not more than the timeout below `t`, walk down the chain to the first row below `t`
  have walk : ∀ n : Nat, ∀ x ∈ s.rows, t - x.ts ≤ timeout → x.ts - t < n →
      ∃ r' ∈ s.rows, r'.ts < t ∧ t - r'.ts ≤ timeout := by
    intro n
    induction n with
    | zero => exact fun x hx hd hn => ⟨x, hx, Int.lt_of_sub_neg hn, hd⟩
    | succ n ih =>
      intro x hx hd hn
      by_cases hxt : x.ts < t
      · exact ⟨x, hx, hxt, hd⟩
      · rcases hc x hx with hst | ⟨p, hp, hpl, hpd⟩
        · exact absurd (hst ▸ h1) hxt
        · exact ih p hp (Int.le_trans (Int.sub_le_sub_right (Int.not_lt.mp hxt) _) hpd)
            (Int.lt_of_lt_of_le (Int.sub_lt_sub_right hpl t) (Int.le_of_lt_add_one hn))
  obtain ⟨m, hm, hmt⟩ := hok.hmax
  have h2' : t < m.ts + timeout := hmt ▸ hok.hstop ▸ h2
  exact walk (m.ts - t).toNat.succ m hm (Int.le_of_lt (Int.sub_left_lt_of_lt_add h2'))
    (Int.lt_add_one_of_le (Int.self_le_toNat _))

/-- a row that begins its part above the fused start is preceded by the new row, or lies inside a part that starts
earlier -/
theorem fuse_chain (k : Key) (p : Nat) (timeout : Int) (l : List Sess) (r : Row)
    (hok : ∀ s ∈ l, SessOk timeout s) (hch : ∀ s ∈ l, Chain timeout s.start s.rows)
    (htouch : ∀ s ∈ l, s.start - timeout < r.ts ∧ r.ts < s.stop) :
    Chain timeout (fuse k p timeout l r).start (fuse k p timeout l r).rows := by
  have inside : ∀ t, minStart l r.ts < t → t ≤ r.ts →
      ∃ r' ∈ (fuse k p timeout l r).rows, r'.ts < t ∧ t - r'.ts ≤ timeout := by
    intro t h1 h2
    rcases (minStart_spec l r.ts).2 with h | ⟨s, hs, h⟩
    · exact absurd (h ▸ h1) (Int.not_lt.mpr h2)
    · obtain ⟨q, hq, hq'⟩ := exists_pred timeout s (hok s hs) (hch s hs) t (h ▸ h1)
        (Int.lt_of_le_of_lt h2 (htouch s hs).2)
      exact ⟨q, mem_fuse_rows.mpr (.inl ⟨s, hs, hq⟩), hq'⟩
  intro x hx
  have hlow : minStart l r.ts ≤ x.ts := ((fuse_ok k p timeout l r hok).hbounds x hx).1
  rcases Int.le_iff_lt_or_eq.mp hlow with hlt | heq
  · right
    rcases mem_fuse_rows.mp hx with ⟨s, hs, hxs⟩ | rfl
    · rcases hch s hs x hxs with hst | ⟨q, hq, hq'⟩
      · by_cases hr : r.ts < x.ts
        · exact ⟨r, mem_fuse_rows.mpr (.inr rfl), hr, Int.le_of_lt (Int.sub_lt_of_sub_lt (hst ▸ (htouch s hs).1))⟩
        · exact inside x.ts hlt (Int.not_lt.mp hr)
      · exact ⟨q, mem_fuse_rows.mpr (.inl ⟨s, hs, hq⟩), hq'⟩
    · exact inside x.ts hlt (Int.le_refl _)
  · exact Or.inl heq.symm

/-- an untouched session lies wholly on one side of the row, and so do the parts, which the row touches -/
theorem fuse_apart (k : Key) (p : Nat) (timeout : Int) (l : List Sess) (r : Row) (u : Sess)
    (hu : u.start < u.stop) (hnot : r.ts ≤ u.start - timeout ∨ u.stop ≤ r.ts)
    (hok : ∀ s ∈ l, SessOk timeout s) (htouch : ∀ s ∈ l, s.start - timeout < r.ts ∧ r.ts < s.stop)
    (hap : ∀ s ∈ l, Apart u s) : Apart u (fuse k p timeout l r) := by
  rcases hnot with h | h
  · right
    show maxLast l r.ts + timeout ≤ u.start
    rcases (maxLast_spec l r.ts).2 with hm | ⟨s, hs, hm⟩
    · rw [hm]
      exact Int.add_le_of_le_sub_right h
    · rw [hm, ← (hok s hs).hstop]
      exact (hap s hs).resolve_left fun h2 => Int.lt_irrefl _ (Int.lt_of_lt_of_le
        (Int.lt_trans (Int.lt_of_sub_lt_sub_right (Int.lt_of_lt_of_le (htouch s hs).1 h)) hu) h2)
  · left
    show u.stop ≤ minStart l r.ts
    rcases (minStart_spec l r.ts).2 with hm | ⟨s, hs, hm⟩
    · rw [hm]
      exact h
    · rw [hm]
      exact (hap s hs).resolve_right fun h2 => Int.lt_irrefl _ (Int.lt_of_lt_of_le
        (Int.lt_trans (Int.lt_of_lt_of_le (htouch s hs).2 h2) hu) h)

/-- what holds of the window in every reachable state; by `hchan` an expiry pass is run for a value at or below the
watermark, so that nothing is delivered before the watermark has passed its end -/
structure Inv (w : SWin) : Prop where
  hok : AllOk w
  hchain : ∀ s ∈ w.sessions, Chain w.timeout s.start s.rows
  hsep : w.sessions.Pairwise SameKeyApart
  hchan : ∀ x ∈ w.wm.chan, leOpt x w.wm.cur
  htime : 0 < w.timeout

theorem inv_init (timeout ooo lateness : Int) (ht : 0 < timeout) : Inv (init timeout ooo lateness) :=
  { hok := fun _ hs => absurd hs List.not_mem_nil
    hchain := fun _ hs => absurd hs List.not_mem_nil
    hsep := .nil
    hchan := fun _ hx => absurd hx List.not_mem_nil
    htime := ht }

theorem Inv.apart {w : SWin} (h : Inv w) {a b : Sess} (ha : a ∈ w.sessions) (hb : b ∈ w.sessions)
    (hne : a ≠ b) (hk : a.key = b.key) : Apart a b := by
  refine List.Pairwise.forall_of_forall_of_flip (R := fun a b => a ≠ b → SameKeyApart a b)
    (fun _ _ hne => absurd rfl hne) (h.hsep.imp ?_) (h.hsep.imp ?_) ha hb hne hk
  · exact fun hab _ => hab
  · exact fun hab _ => sameKeyApart_symm _ _ hab

/-- on time: the untouched sessions stay and the touched ones are replaced by their fusion with the row, from which an
untouched session of the key is apart because it is apart from every touched one -/
theorem inv_add (w : SWin) (k : Key) (r : Row) (now : Int) (h : Inv w) : Inv (stepAdd w k r now).1 := by
  have hchan : ∀ x ∈ (stepAdd w k r now).1.wm.chan, leOpt x (stepAdd w k r now).1.wm.cur :=
    (Move.update _ _ _).chan h.hchan
  cases hl : lateNow w r now
  · obtain ⟨_, p, hs⟩ := stepAdd_ontime w k r now hl
    have hT : ∀ s ∈ touched w k r, s ∈ w.sessions ∧ s.key = k ∧ s.start - w.timeout < r.ts ∧ r.ts < s.stop :=
      fun s hs => ((mem_touched w k r s).mp hs).imp_right (touches_iff _ _ _ _).mp
    have hTok : ∀ s ∈ touched w k r, SessOk w.timeout s := fun s hs => h.hok s (hT s hs).1
    have hTt : ∀ s ∈ touched w k r, s.start - w.timeout < r.ts ∧ r.ts < s.stop := fun s hs => (hT s hs).2.2
    have hold : ∀ s ∈ w.sessions.filter (fun s => !touches w.timeout k r.ts s), s ∈ w.sessions :=
      fun s hs => (List.mem_filter.mp hs).1
    have hnew : ∀ s ∈ (stepAdd w k r now).1.sessions, SessOk w.timeout s ∧ Chain w.timeout s.start s.rows := by
      intro s hs'
      rw [hs] at hs'
      rcases List.mem_append.mp hs' with hs' | hs'
      · exact ⟨h.hok s (hold s hs'), h.hchain s (hold s hs')⟩
      · rw [List.mem_singleton.mp hs']
        exact ⟨fuse_ok k p w.timeout _ r hTok,
          fuse_chain k p w.timeout _ r hTok (fun s hs => h.hchain s (hT s hs).1) hTt⟩
    refine { hok := fun s hs => (hnew s hs).1, hchain := fun s hs => (hnew s hs).2, hsep := ?_,
             hchan := hchan, htime := h.htime }
    rw [hs, List.pairwise_append]
    refine ⟨h.hsep.filter _, List.pairwise_singleton _ _, fun u hu b hb hk => ?_⟩
    rw [List.mem_singleton.mp hb] at hk ⊢
    obtain ⟨hu, hnt⟩ := List.mem_filter.mp hu
    have hnot : ¬(u.start - w.timeout < r.ts ∧ r.ts < u.stop) := fun hc =>
      absurd ((touches_iff w.timeout k r.ts u).mpr ⟨hk, hc⟩) (by simpa using hnt)
    refine fuse_apart k p w.timeout _ r u ((h.hok u hu).start_lt_stop h.htime)
      ((Decidable.not_and_iff_or_not.mp hnot).imp Int.not_lt.mp Int.not_lt.mp) hTok hTt fun s hs => ?_
    refine h.apart hu (hT s hs).1 (fun he => ?_) (hk.trans (hT s hs).2.1.symm)
    rw [he, (mem_touched w k r s).mp hs |>.2] at hnt
    cases hnt
  · have hs := stepAdd_late w k r now hl
    exact { hok := fun s hs' => h.hok s (hs ▸ hs'), hchain := fun s hs' => h.hchain s (hs ▸ hs'),
            hsep := hs ▸ h.hsep, hchan := hchan, htime := h.htime }

theorem inv_expire (w : SWin) (x : Int) (h : Inv w) : Inv (stepExpire w x).1 :=
  { hok := fun s hs => h.hok s (List.mem_filter.mp hs).1
    hchain := fun s hs => h.hchain s (List.mem_filter.mp hs).1
    hsep := h.hsep.filter _
    hchan := h.hchan
    htime := h.htime }

theorem inv_pop {w : SWin} {x : Int} {wm' : Wm.Wm} (h : Inv w) (hp : Wm.pop w.wm = some (x, wm')) :
    Inv { w with wm := wm' } :=
  { h with hchan := (Move.pop hp).chan h.hchan }

theorem popped_le_cur {w : SWin} {x : Int} {wm' : Wm.Wm} (h : Inv w) (hp : Wm.pop w.wm = some (x, wm')) :
    leOpt x wm'.cur :=
  (Move.pop hp).mono (h.hchan x (Wm.pop_mem _ _ _ hp).1)

theorem inv_step (w : SWin) (op : Op) (h : Inv w) : Inv (step w op).1 := by
  cases op with
  | add k r now => exact inv_add w k r now h
  | addNoTs => exact h
  | tick idle now => exact { h with hchan := (Move.tick _ _ _).chan h.hchan }
  | deliver =>
    show Inv (stepDeliver w).1
    fun_cases stepDeliver w
    case case1 => exact h  -- channel empty
    case case2 x wm' hp => exact inv_expire _ x (inv_pop h hp)

theorem inv_run (w : SWin) (ops : List Op) (h : Inv w) : Inv (run w ops).1 := by
  induction ops generalizing w with
  | nil => exact h
  | cons op ops ih => exact ih _ (inv_step w op h)

theorem step_perm (w : SWin) (op : Op) :
    (openRows (step w op).1 ++ firstRows (step w op).2).Perm (openRows w ++ acceptedBy w op) := by
  cases op with
  | add k r now => exact add_perm w k r now
  | addNoTs => exact .refl _
  | tick idle now => exact .refl _
  | deliver =>
    simp only [step, stepDeliver, acceptedBy, List.append_nil]
    split
    · exact List.append_nil _ ▸ .refl _
    · exact expire_perm _ _

theorem firstRows_append (a b : List Emission) : firstRows (a ++ b) = firstRows a ++ firstRows b := by
  simp only [firstRows, List.filter_append, List.flatMap_append]

theorem run_perm (w : SWin) (ops : List Op) :
    (openRows (run w ops).1 ++ firstRows (run w ops).2).Perm (openRows w ++ acceptedRows w ops) := by
  induction ops generalizing w with
  | nil => exact .refl _
  | cons op ops ih =>
    simp only [run, acceptedRows, firstRows_append]
    rw [← List.append_assoc (openRows w)]
    refine .trans ?_ ((step_perm w op).append_right _)
    rw [List.append_assoc]
    exact (List.perm_append_comm_assoc _ _ _).trans
      (((ih _).append_left _).trans (List.perm_append_comm_assoc _ _ _))

theorem run_conserve (w : SWin) (ops : List Op) (x : Row) :
    (openRows (run w ops).1).count x + (firstRows (run w ops).2).count x
      = (openRows w).count x + (acceptedRows w ops).count x := by
  simpa only [List.count_append] using (run_perm w ops).count_eq x

theorem step_config (w : SWin) (op : Op) :
    (step w op).1.timeout = w.timeout ∧ (step w op).1.lateness = w.lateness := by
  cases op with
  | add k r now => exact ⟨rfl, rfl⟩
  | addNoTs => exact ⟨rfl, rfl⟩
  | tick idle now => exact ⟨rfl, rfl⟩
  | deliver => simp only [step, stepDeliver]; split <;> exact ⟨rfl, rfl⟩

theorem run_timeout (w : SWin) (ops : List Op) : (run w ops).1.timeout = w.timeout := by
  induction ops generalizing w with
  | nil => rfl
  | cons op ops ih => exact (ih _).trans (step_config w op).1

theorem run_lateness (w : SWin) (ops : List Op) : (run w ops).1.lateness = w.lateness := by
  induction ops generalizing w with
  | nil => rfl
  | cons op ops ih => exact (ih _).trans (step_config w op).2

theorem step_move (w : SWin) (op : Op) : Move w.wm (step w op).1.wm := by
  cases op with
  | add k r now => exact .update _ _ _
  | addNoTs => exact .stay _
  | tick idle now => exact .tick _ _ _
  | deliver =>
    show Move w.wm (stepDeliver w).1.wm
    fun_cases stepDeliver w
    case case1 => exact .stay _  -- channel empty
    case case2 x wm' hp => exact .pop hp

theorem leOpt_mono_run (w : SWin) (ops : List Op) (x : Int) (h : leOpt x w.wm.cur) :
    leOpt x (run w ops).1.wm.cur := by
  induction ops generalizing w with
  | nil => exact h
  | cons op ops ih => exact ih _ ((step_move w op).mono h)

theorem step_firsts (w : SWin) (op : Op) (h : Inv w) :
    ∀ e ∈ (step w op).2, e.late = false →
      EmOk w.timeout e ∧ Chain w.timeout e.start e.rows ∧ leOpt e.stop (step w op).1.wm.cur := by
  intro e he hl
  cases op with
  | add k r now =>
    rw [add_emits_late w k r now e he] at hl
    cases hl
  | addNoTs => cases he
  | tick idle now => cases he
  | deliver =>
    simp only [step, stepDeliver] at he ⊢
    split at he
    · cases he
    · rename_i y wm' hp
      obtain ⟨c, hc, hyc⟩ := popped_le_cur h hp
      obtain ⟨s, ⟨hs, hex⟩, rfl⟩ := (mem_expire_emits _ _ _).mp he
      exact ⟨emOk_emit (h.hok s hs), h.hchain s hs, c, hc, Int.le_trans (stop_le_of_expired (h.hok s hs) hex) hyc⟩

theorem run_firsts (w : SWin) (ops : List Op) (h : Inv w) :
    ∀ e ∈ (run w ops).2, e.late = false →
      EmOk w.timeout e ∧ Chain w.timeout e.start e.rows ∧ leOpt e.stop (run w ops).1.wm.cur := by
  induction ops generalizing w with
  | nil => exact fun e he => absurd he List.not_mem_nil
  | cons op ops ih =>
    intro e he hl
    simp only [run, List.mem_append] at he ⊢
    rcases he with he | he
    · obtain ⟨h1, h2, h3⟩ := step_firsts w op h e he hl
      exact ⟨h1, h2, leOpt_mono_run _ ops _ h3⟩
    · have := ih _ (inv_step w op h) e he hl
      rwa [(step_config w op).1] at this

end Session
