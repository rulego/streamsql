/-
Reference sessionization of an in-order stream (C10, last clause): a function of the Adds alone.
Used by the theorems of `Proofs/SessionOrder.lean` / `Props/C10.lean` and, unchanged, by the driver's oracle.
Core Lean only.
-/
import SsqlVerif.Model.Session
set_option autoImplicit false

namespace Session

/-- what a user sees of a session -/
structure RefS where
  key   : Key
  start : Int
  stop  : Int
  rows  : List Row
  deriving DecidableEq, Repr

def Sess.toRef (s : Sess) : RefS := ⟨s.key, s.start, s.stop, s.rows⟩
def Emission.toRef (e : Emission) : RefS := ⟨e.key, e.start, e.stop, e.rows⟩

/-- the row of key `k` at `ts` arrives before the end of session `x` of that key -/
def hits (k : Key) (ts : Int) (x : RefS) : Bool := x.key == k && decide (ts < x.stop)

def extend (timeout : Int) (r : Row) (x : RefS) : RefS := { x with stop := r.ts + timeout, rows := x.rows ++ [r] }

/-- reference sessionization of an in-order stream, one row at a time -/
def refAdd (timeout : Int) (acc : List RefS) (k : Key) (r : Row) : List RefS :=
  if acc.any (hits k r.ts) then acc.map (fun x => if hits k r.ts x then extend timeout r x else x)
  else acc ++ [⟨k, r.ts, r.ts + timeout, [r]⟩]

def refOp (timeout : Int) (acc : List RefS) : Op → List RefS
  | .add k r _ => refAdd timeout acc k r
  | _ => acc

/-- a function of the Adds alone: ticks and expiry passes are ignored -/
def reference (timeout : Int) (ops : List Op) : List RefS := ops.foldl (refOp timeout) []

/-- the Adds of a history, in order -/
def addsOf : List Op → List (Key × Row)
  | [] => []
  | .add k r _ :: ops => (k, r) :: addsOf ops
  | _ :: ops => addsOf ops

/-- in-order history without idle ticks: every Add's timestamp is at least `lo` and at least every earlier one -/
def InOrderFrom : Int → List Op → Prop
  | _, [] => True
  | lo, .add _ r _ :: ops => lo ≤ r.ts ∧ InOrderFrom r.ts ops
  | lo, .tick idle _ :: ops => idle = false ∧ InOrderFrom lo ops
  | lo, _ :: ops => InOrderFrom lo ops

/-- executable form of `InOrderFrom` for the driver -/
def inOrderB : Int → List Op → Bool
  | _, [] => true
  | lo, .add _ r _ :: ops => decide (lo ≤ r.ts) && inOrderB r.ts ops
  | lo, .tick idle _ :: ops => !idle && inOrderB lo ops
  | lo, _ :: ops => inOrderB lo ops

theorem inOrderB_iff (lo : Int) (ops : List Op) : inOrderB lo ops = true ↔ InOrderFrom lo ops := by
  induction ops generalizing lo with
  | nil => simp [inOrderB, InOrderFrom]
  | cons op ops ih =>
    cases op <;> simp [inOrderB, InOrderFrom, ih]

end Session
