/-
Helper lemmas for C14: the partition key encoding is injective.  `encOne` (decimal length, `:`,
text, `|`) is a prefix code, so the concatenation of fragments determines the fragments, for
all byte strings; `typeKey` (type name, `|`, value text) determines the typed value.
-/
import SsqlVerif.Model.Analytic
set_option autoImplicit false

namespace Analytic

/-- split off the leading decimal digits -/
def spanDigits : List Char → List Char × List Char
  | [] => ([], [])
  | c :: cs => if c.isDigit then ((c :: (spanDigits cs).1), (spanDigits cs).2) else ([], c :: cs)

theorem spanDigits_append (ds : List Char) (hd : ∀ c ∈ ds, c.isDigit = true) (c : Char)
    (hc : c.isDigit = false) (r : List Char) : spanDigits (ds ++ c :: r) = (ds, c :: r) := by
  induction ds with
  | nil => simp [spanDigits, hc]
  | cons d ds ih =>
    have h1 : d.isDigit = true := hd d (by simp)
    have h2 := ih (fun c hc' => hd c (by simp [hc']))
    simp [spanDigits, h1, h2]

/-- decode one fragment from the front (the `+ 1` is the `|` that closes the fragment) -/
def decOne (l : List Char) : Option (List Char × List Char) :=
  match (spanDigits l).2 with
  | ':' :: r' =>
    if Nat.ofDigitChars 10 (spanDigits l).1 0 + 1 ≤ r'.length then
      some (r'.take (Nat.ofDigitChars 10 (spanDigits l).1 0), r'.drop (Nat.ofDigitChars 10 (spanDigits l).1 0 + 1))
    else none
  | _ => none

theorem ofDigitChars_toDigits (n : Nat) : Nat.ofDigitChars 10 (Nat.toDigits 10 n) 0 = n :=
  Nat.ofDigitChars_toDigits (by decide) (by decide)

theorem isDigit_toDigits (n : Nat) : ∀ c ∈ Nat.toDigits 10 n, c.isDigit = true := fun _ =>
  Nat.isDigit_of_mem_toDigits (by decide) (by decide)

theorem decOne_encOne (s r : List Char) : decOne (encOne s ++ r) = some (s, r) := by
  unfold decOne encOne
  have : Nat.toDigits 10 s.length ++ ':' :: (s ++ ['|']) ++ r
       = Nat.toDigits 10 s.length ++ ':' :: (s ++ '|' :: r) := by simp
  rw [this, spanDigits_append _ (isDigit_toDigits _) ':' (by decide)]
  simp

theorem encOne_cancel (s t r r' : List Char) (h : encOne s ++ r = encOne t ++ r') : s = t ∧ r = r' := by
  have h1 := decOne_encOne s r
  rw [h, decOne_encOne] at h1
  simpa [eq_comm] using h1

theorem encAll_injective (xs ys : List (List Char)) (h : encAll xs = encAll ys) : xs = ys := by
  induction xs generalizing ys with
  | nil =>
    cases ys with
    | nil => rfl
    | cons y ys => simp [encAll, encOne] at h
  | cons x xs ih =>
    cases ys with
    | nil => simp [encAll, encOne] at h
    | cons y ys =>
      have h' : encOne x ++ encAll xs = encOne y ++ encAll ys := by simpa [encAll] using h
      obtain ⟨hxy, hrest⟩ := encOne_cancel _ _ _ _ h'
      rw [hxy, ih ys hrest]

theorem toDigits_injective (a b : Nat) (h : Nat.toDigits 10 a = Nat.toDigits 10 b) : a = b :=
  (ofDigitChars_toDigits a).symm.trans (h ▸ ofDigitChars_toDigits b)

theorem toDigits_ne_minus_cons (n : Nat) (l : List Char) : Nat.toDigits 10 n ≠ '-' :: l := fun h =>
  absurd (isDigit_toDigits n '-' (h ▸ List.mem_cons_self)) (by decide)

theorem intRepr_injective (a b : Int) (h : intRepr a = intRepr b) : a = b := by
  cases a with
  | ofNat x =>
    cases b with
    | ofNat y => exact congrArg Int.ofNat (toDigits_injective x y h)
    | negSucc y => exact absurd h (toDigits_ne_minus_cons x _)
  | negSucc x =>
    cases b with
    | ofNat y => exact absurd h.symm (toDigits_ne_minus_cons y _)
    | negSucc y => exact congrArg Int.negSucc (Nat.succ.inj (toDigits_injective _ _ (List.cons.inj h).2))

def tagChar : KVal → Char
  | .null => 'n'
  | .str _ => 's'
  | .int _ => 'i'
  | .flt _ => 'f'
  | .bool _ => 'b'

theorem typeKey_head (a : KVal) : (typeKey a).head? = some (tagChar a) := by
  have append (p s : List Char) (c : Char) (h : p.head? = some c) : (p ++ s).head? = some c := by
    rw [List.head?_append, h]
    rfl
  cases a with
  | null => decide +kernel
  | bool b => cases b <;> decide +kernel
  | str s => exact append _ s 's' (by decide +kernel)
  | int i => exact append _ _ 'i' (by decide +kernel)
  | flt r => exact append _ r 'f' (by decide +kernel)

/-- the type tag and the value text determine the typed value (a float64 is identified with its
`FormatFloat(x,'g',-1,64)` text: trusted base, strconv formatting) -/
theorem typeKey_injective (a b : KVal) (h : typeKey a = typeKey b) : a = b := by
  have ht : tagChar a = tagChar b := Option.some.inj (typeKey_head a ▸ typeKey_head b ▸ congrArg List.head? h)
  cases a with
  | null => cases b with
    | null => rfl
    | _ => simp [tagChar] at ht
  | str s => cases b with
    | str t => exact congrArg KVal.str (List.append_cancel_left (as := "string|".toList) h)
    | _ => simp [tagChar] at ht
  | int i => cases b with
    | int j => exact congrArg KVal.int (intRepr_injective i j (List.append_cancel_left (as := "int|".toList) h))
    | _ => simp [tagChar] at ht
  | flt s => cases b with
    | flt t => exact congrArg KVal.flt (List.append_cancel_left (as := "float64|".toList) h)
    | _ => simp [tagChar] at ht
  | bool d => cases b with
    | bool c =>
      cases c <;> cases d
      · rfl
      · exact absurd h (by decide +kernel)
      · exact absurd h (by decide +kernel)
      · rfl
    | _ => simp [tagChar] at ht

theorem partitionKey_injective (xs ys : List KVal) (h : partitionKey xs = partitionKey ys) : xs = ys :=
  (List.map_inj_right typeKey_injective).1 (encAll_injective _ _ h)

end Analytic
