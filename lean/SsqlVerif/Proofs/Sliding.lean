/-
The sliding-window state machine (event time, ALLOWEDLATENESS = 0) step by step, and its state invariant `Good`.
-/
import SsqlVerif.Proofs.Tumbling
import SsqlVerif.Model.Sliding
set_option autoImplicit false

namespace Sliding
open Wm Tumbling

/-- the rows the eviction rule keeps for slot `c` and every later one -/
def geCur (c : Int) (r : Row) : Bool := decide (c ≤ r.ts)

theorem filter_geCur_mono (l : List Row) (c c' : Int) (h : c ≤ c') :
    (l.filter (geCur c)).filter (geCur c') = l.filter (geCur c') := by
  rw [List.filter_filter]
  apply List.filter_congr
  intro r _
  simp only [geCur]
  by_cases h' : c' ≤ r.ts
  · have : c ≤ r.ts := by omega
    simp [h', this]
  · simp [h']

theorem filter_inSlot_of_geCur (l : List Row) (size c : Int) :
    (l.filter (geCur c)).filter (inSlot size c) = l.filter (inSlot size c) := by
  rw [List.filter_filter]
  apply List.filter_congr
  intro r _
  simp only [geCur, inSlot]
  by_cases h : c ≤ r.ts <;> simp [h]

theorem fireOrSkip_frame (s : SW) (c : Int) :
    (fireOrSkip s c).1.cur = some (c + s.slide) ∧ (fireOrSkip s c).1.advanced = true ∧
    (fireOrSkip s c).1.wm = s.wm ∧ (fireOrSkip s c).1.size = s.size ∧ (fireOrSkip s c).1.slide = s.slide ∧
    (fireOrSkip s c).1.trigW = s.trigW ∧ (fireOrSkip s c).1.acc = s.acc ∧ (fireOrSkip s c).1.accCur = s.accCur := by
  fun_cases fireOrSkip s c
  case case1 => exact ⟨rfl, rfl, rfl, rfl, rfl, rfl, rfl, rfl⟩  -- skip
  case case2 => exact ⟨rfl, rfl, rfl, rfl, rfl, rfl, rfl, rfl⟩  -- fire

theorem fireOrSkip_data (s : SW) (c : Int) :
    (fireOrSkip s c).1.data.filter (geCur (c + s.slide)) = s.data.filter (geCur (c + s.slide)) := by
  fun_cases fireOrSkip s c
  case case1 => rfl  -- skip
  case case2 =>  -- fire
    show (s.data.filter (geCur (c + s.slide))).filter (geCur (c + s.slide)) = _
    rw [List.filter_filter]
    simp only [Bool.and_self]

theorem fireOrSkip_emits (s : SW) (c : Int) :
    ((fireOrSkip s c).2 = [] ∧ slotRows s c = []) ∨
    ((fireOrSkip s c).2 = [{ kind := .first, start := c, stop := c + s.size, rows := slotRows s c }] ∧
      slotRows s c ≠ []) := by
  fun_cases fireOrSkip s c
  case case1 hempty => exact Or.inl ⟨rfl, List.isEmpty_iff.mp hempty⟩  -- skip
  case case2 hne => exact Or.inr ⟨rfl, fun h => hne (List.isEmpty_iff.mpr h)⟩  -- fire

theorem stepIter_cases (s : SW) :
    (∃ w c, s.trigW = some w ∧ s.cur = some c ∧ c + s.size ≤ w ∧ stepIter s = fireOrSkip s c) ∨
    (∃ w c, s.trigW = some w ∧ s.cur = some c ∧ ¬ c + s.size ≤ w ∧
      stepIter s = ({ s with trigW := none, doneW := some w }, [])) ∨
    stepIter s = ({ s with trigW := none }, []) ∨ stepIter s = (s, []) := by
  fun_cases stepIter s
  case case1 w c hcur htr hw => exact Or.inl ⟨w, c, htr, hcur, hw, rfl⟩  -- fire or skip
  case case2 w c hcur htr hw => exact Or.inr (Or.inl ⟨w, c, htr, hcur, hw, rfl⟩)  -- end of pass
  case case3 => exact Or.inr (Or.inr (Or.inl rfl))  -- no slot yet
  case case4 => exact Or.inr (Or.inr (Or.inr rfl))  -- idle

theorem stepPop_cases (s : SW) :
    stepPop s = s ∨ ∃ w wm', Wm.pop s.wm = some (w, wm') ∧ stepPop s = { s with trigW := some w, wm := wm' } := by
  fun_cases stepPop s
  case case1 w wm' hp _ => exact Or.inr ⟨w, wm', hp, rfl⟩  -- receive
  case case2 => exact Or.inl rfl  -- busy or empty

theorem stepIter_frame (s : SW) :
    (stepIter s).1.wm = s.wm ∧ (stepIter s).1.size = s.size ∧ (stepIter s).1.slide = s.slide := by
  rcases stepIter_cases s with ⟨_, c, _, _, _, h⟩ | ⟨_, _, _, _, _, h⟩ | h | h <;> rw [h]
  · obtain ⟨_, _, h1, h2, h3, _⟩ := fireOrSkip_frame s c
    exact ⟨h1, h2, h3⟩
  all_goals exact ⟨rfl, rfl, rfl⟩

theorem step_move (s : SW) (op : Op) : Move s.wm (step s op).1.wm := by
  cases op with
  | add r now => exact .update _ _ _
  | addNoTs => exact .stay _
  | tick idle now => exact .tick _ _ _
  | pop =>
    show Move s.wm (stepPop s).wm
    rcases stepPop_cases s with h | ⟨_, _, hp, h⟩ <;> rw [h]
    · exact .stay _
    · exact .pop hp
  | iter =>
    show Move s.wm (stepIter s).1.wm
    rw [(stepIter_frame s).1]
    exact .stay _

theorem step_frame (s : SW) (op : Op) : (step s op).1.size = s.size ∧ (step s op).1.slide = s.slide := by
  cases op with
  | pop =>
    show (stepPop s).size = _ ∧ (stepPop s).slide = _
    rcases stepPop_cases s with h | ⟨_, _, _, h⟩ <;> rw [h]
    all_goals exact ⟨rfl, rfl⟩
  | iter => exact (stepIter_frame s).2
  | _ => exact ⟨rfl, rfl⟩

theorem run_frame (s : SW) (ops : List Op) : (run s ops).1.size = s.size ∧ (run s ops).1.slide = s.slide := by
  induction ops generalizing s with
  | nil => exact ⟨rfl, rfl⟩
  | cons op ops ih =>
    obtain ⟨h1, h2⟩ := ih (step s op).1
    obtain ⟨h3, h4⟩ := step_frame s op
    exact ⟨h1.trans h3, h2.trans h4⟩

theorem below_step (s : SW) (op : Op) (hb : Below s.trigW s.wm) : Below (step s op).1.trigW (step s op).1.wm := by
  cases op with
  | add r now => exact hb.move (.update _ _ _)
  | addNoTs => exact hb
  | tick idle now => exact hb.move (.tick _ _ _)
  | pop =>
    show Below (stepPop s).trigW (stepPop s).wm
    rcases stepPop_cases s with h | ⟨_, _, hp, h⟩ <;> rw [h]
    · exact hb
    · exact hb.pop hp
  | iter =>
    show Below (stepIter s).1.trigW (stepIter s).1.wm
    rcases stepIter_cases s with ⟨_, c, _, _, _, h⟩ | ⟨_, _, _, _, _, h⟩ | h | h <;> rw [h]
    · obtain ⟨_, _, h3, _, _, h6, _⟩ := fireOrSkip_frame s c
      rw [h3, h6]
      exact hb
    · exact hb.clear
    · exact hb.clear
    · exact hb

theorem stepAdd_logs (s : SW) (r : Row) (now : Int) :
    ∃ k : List Row, (∀ x ∈ k, x = r ∧ kept s r now = true) ∧ (stepAdd s r now).data = s.data ++ k ∧
      (stepAdd s r now).acc = s.acc ++ k ∧
      (stepAdd s r now).accCur = s.accCur ++ k.map (fun x => (x, curAfterAdd s r now)) := by
  unfold stepAdd
  cases hk : kept s r now with
  | true => exact ⟨[r], fun x hx => ⟨List.mem_singleton.mp hx, rfl⟩, rfl, rfl, rfl⟩
  | false => exact ⟨[], fun x hx => (nomatch hx), (List.append_nil _).symm, (List.append_nil _).symm,
      (List.append_nil _).symm⟩

/-- holds in every reachable state.  `acc`, `accCur`: ghost logs of the accepted rows (the second with the slot
current right after the row's Add); `advanced`: the trigger loop has moved the slot at least once. -/
structure Good (s : SW) : Prop where
  hsize : 0 < s.size
  hslide : 0 < s.slide
  hinit : s.cur = none → s.data = [] ∧ s.acc = [] ∧ s.accCur = [] ∧ s.advanced = false
  halign : ∀ c, s.cur = some c → s.slide ∣ c
  htrig : ∀ w, s.trigW = some w → leOpt w s.wm.cur
  hchan : ∀ w ∈ s.wm.chan, leOpt w s.wm.cur
  /-- rows at or after the current slot are never evicted -/
  hacc : ∀ c, s.cur = some c → s.data.filter (geCur c) = s.acc.filter (geCur c)
  /-- a re-seat (possible only before the loop advances) loses no row -/
  hfresh : s.advanced = false → s.data = s.acc
  /-- once the loop has advanced, the last passed slot ended at or below the watermark -/
  hpassed : s.advanced = true → ∀ c, s.cur = some c → leOpt (c - s.slide + s.size) s.wm.cur
  hlog : s.accCur.map (·.1) = s.acc
  hlo : s.advanced = false → ∀ c, s.cur = some c → ∀ x ∈ s.acc, c ≤ x.ts

theorem good_init (size slide ooo : Int) (hs : 0 < size) (hl : 0 < slide) : Good (init size slide ooo) :=
  { hsize := hs, hslide := hl
    hinit := fun _ => ⟨rfl, rfl, rfl, rfl⟩
    halign := by
      intro c h
      cases h
    htrig := by
      intro w h
      cases h
    hchan := by
      intro w h
      cases h
    hacc := by
      intro c h
      cases h
    hfresh := fun _ => rfl
    hpassed := by
      intro h
      cases h
    hlog := rfl
    hlo := by
      intro _ c h
      cases h }

theorem curInit_dvd (s : SW) (r : Row) (hg : Good s) : s.slide ∣ curInit s r := by
  unfold curInit
  cases hc : s.cur with
  | none => exact alignDown_dvd _ _
  | some c => exact hg.halign c hc

theorem curAfterAdd_dvd (s : SW) (r : Row) (now : Int) (hg : Good s) : s.slide ∣ curAfterAdd s r now := by
  fun_cases curAfterAdd s r now
  case case1 => exact curInit_dvd s r hg  -- late
  case case2 => exact alignDown_dvd _ _  -- re-seat
  case case3 => exact curInit_dvd s r hg  -- on time

theorem curAfterAdd_cases (s : SW) (r : Row) (now : Int) :
    curAfterAdd s r now = curInit s r ∨
    (s.advanced = false ∧ lateNow s r now = false ∧ r.ts < curInit s r ∧ curAfterAdd s r now = alignDown r.ts s.slide) := by
  fun_cases curAfterAdd s r now
  case case1 => exact Or.inl rfl  -- late
  case case2 hl h => exact Or.inr ⟨h.2, Bool.eq_false_iff.mpr hl, h.1, rfl⟩  -- re-seat
  case case3 => exact Or.inl rfl  -- on time

theorem kept_ge_cur (s : SW) (r : Row) (now : Int) (hg : Good s) (ht : 0 ≤ r.ts) (hk : kept s r now = true)
    (hfr : s.advanced = false) : curAfterAdd s r now ≤ r.ts := by
  fun_cases curAfterAdd s r now
  case case1 hl =>  -- late: kept only inside the current slot
    rw [kept, hl] at hk
    exact ((inSlot_iff _ _ _).mp (by simpa using hk)).1
  case case2 => exact alignDown_le r.ts s.slide ht hg.hslide  -- re-seat
  case case3 _ h => exact Int.not_lt.mp fun hlt => h ⟨hlt, hfr⟩  -- on time

/-- an on-time row is at or after the current slot or in the gap before it (slide > size) -/
theorem ontime_ge_passed (s : SW) (r : Row) (now : Int) (hg : Good s) (c : Int) (hc : s.cur = some c)
    (hadv : s.advanced = true) (hl : lateNow s r now = false) : c - s.slide + s.size ≤ r.ts :=
  not_late_ge (wmAfter s r now) r.ts _ (by simpa [lateNow] using hl)
    ((Wm.Move.update _ _ _).mono (hg.hpassed hadv c hc))

theorem curAfterAdd_le_curInit (s : SW) (r : Row) (now : Int) (hg : Good s) (ht : 0 ≤ r.ts) :
    curAfterAdd s r now ≤ curInit s r := by
  rcases curAfterAdd_cases s r now with h | ⟨_, _, hlt, h⟩
  · rw [h]
    exact Int.le_refl _
  · rw [h]
    exact Int.le_of_lt (Int.lt_of_le_of_lt (alignDown_le r.ts s.slide ht hg.hslide) hlt)

/-- the slot is the old one, or a state in which nothing has been evicted is re-seated -/
theorem acc_from_curAfterAdd (s : SW) (r : Row) (now : Int) (hg : Good s) :
    s.data.filter (geCur (curAfterAdd s r now)) = s.acc.filter (geCur (curAfterAdd s r now)) := by
  rcases curAfterAdd_cases s r now with h | ⟨hfr, _⟩
  · rw [h]
    cases hcur : s.cur with
    | none => rw [(hg.hinit hcur).1, (hg.hinit hcur).2.1]
    | some c0 => simpa only [curInit, hcur] using hg.hacc c0 hcur
  · rw [hg.hfresh hfr]

theorem good_add (s : SW) (r : Row) (now : Int) (hg : Good s) (ht : 0 ≤ r.ts) : Good (stepAdd s r now) := by
  have hmono : ∀ x, leOpt x s.wm.cur → leOpt x (wmAfter s r now).cur := fun x hx => (Move.update _ _ _).mono hx
  obtain ⟨k, hk, hd, ha, hl⟩ := stepAdd_logs s r now
  exact
    { hsize := hg.hsize, hslide := hg.hslide
      hinit := fun h => by
        cases h
      halign := fun c hc => by
        cases hc
        exact curAfterAdd_dvd s r now hg
      htrig := fun w hw => hmono w (hg.htrig w hw)
      hchan := (Move.update _ _ _).chan hg.hchan
      hacc := fun c hc => by
        cases hc
        rw [hd, ha, List.filter_append, List.filter_append, acc_from_curAfterAdd s r now hg]
      hfresh := fun hadv => by rw [hd, ha, hg.hfresh hadv]
      hpassed := fun hadv c hc => by
        cases hc
        have hadv' : s.advanced = true := hadv
        cases hcur : s.cur with
        | none =>
          rw [(hg.hinit hcur).2.2.2] at hadv'
          cases hadv'
        | some c0 =>
          rcases curAfterAdd_cases s r now with h | ⟨hfr, _⟩
          · rw [h, show curInit s r = c0 by simp only [curInit, hcur]]
            exact hmono _ (hg.hpassed hadv' c0 hcur)
          · rw [hfr] at hadv'
            cases hadv'
      hlog := by
        rw [hl, ha, List.map_append, hg.hlog, List.map_map]
        exact congrArg _ (List.map_id' _)
      hlo := fun hadv c hc x hx => by
        cases hc
        have hadv' : s.advanced = false := hadv
        rw [ha] at hx
        rcases List.mem_append.mp hx with hx | hx
        · cases hcur : s.cur with
          | none =>
            rw [(hg.hinit hcur).2.1] at hx
            cases hx
          | some c0 =>
            have h1 := hg.hlo hadv' c0 hcur x hx
            have h2 := curAfterAdd_le_curInit s r now hg ht
            simp only [curInit, hcur] at h2
            exact Int.le_trans h2 h1
        · obtain ⟨rfl, hkept⟩ := hk x hx
          exact kept_ge_cur s x now hg ht hkept hadv' }

theorem good_fireOrSkip (s : SW) (w c : Int) (hg : Good s) (hcur : s.cur = some c)
    (htr : s.trigW = some w) (hw : c + s.size ≤ w) : Good (fireOrSkip s c).1 := by
  obtain ⟨h1, h2, h3, h4, h5, h6, h7, h8⟩ := fireOrSkip_frame s c
  have hle : c ≤ c + s.slide := Int.le_add_of_nonneg_right (Int.le_of_lt hg.hslide)
  exact
    { hsize := by
        rw [h4]
        exact hg.hsize
      hslide := by
        rw [h5]
        exact hg.hslide
      hinit := by
        intro h
        rw [h1] at h
        cases h
      halign := by
        intro c' hc'
        rw [h1] at hc'
        cases hc'
        rw [h5]
        exact Int.dvd_add (hg.halign c hcur) (Int.dvd_refl _)
      htrig := by
        rw [h3, h6]
        exact hg.htrig
      hchan := by
        rw [h3]
        exact hg.hchan
      hacc := by
        intro c' hc'
        rw [h1] at hc'
        cases hc'
        -- filtering at `c + slide` factors through filtering at `c`, where `hacc` applies
        rw [fireOrSkip_data, h7, ← filter_geCur_mono s.data c _ hle, hg.hacc c hcur, filter_geCur_mono _ c _ hle]
      hfresh := by
        intro h
        rw [h2] at h
        cases h
      hpassed := by
        intro _ c' hc'
        rw [h1] at hc'
        cases hc'
        rw [h3, h4, h5, Int.add_sub_cancel]
        obtain ⟨y, hy, hwy⟩ := hg.htrig w htr
        exact ⟨y, hy, Int.le_trans hw hwy⟩
      hlog := by
        rw [h7, h8]
        exact hg.hlog
      hlo := by
        intro h
        rw [h2] at h
        cases h }

theorem good_iter (s : SW) (hg : Good s) : Good (stepIter s).1 := by
  rcases stepIter_cases s with ⟨w, c, htr, hcur, hw, h⟩ | ⟨_, _, _, _, _, h⟩ | h | h <;> rw [h]
  · exact good_fireOrSkip s w c hg hcur htr hw
  · exact { hg with htrig := fun _ h => nomatch h }
  · exact { hg with htrig := fun _ h => nomatch h }
  · exact hg

theorem good_pop (s : SW) (hg : Good s) : Good (stepPop s) := by
  rcases stepPop_cases s with h | ⟨w, wm', hp, h⟩ <;> rw [h]
  · exact hg
  · have hb : Below (some w) wm' := Below.pop ⟨hg.htrig, hg.hchan⟩ hp
    exact
      { hg with
        htrig := hb.1
        hchan := hb.2
        hpassed := fun h c hc => (Move.pop hp).mono (hg.hpassed h c hc) }

/-- timestamps of all adds are post-epoch (truncating alignment is floor only there) -/
def OpOk : Op → Prop
  | .add r _ => 0 ≤ r.ts
  | _ => True

instance (op : Op) : Decidable (OpOk op) := by
  cases op <;> simp only [OpOk] <;> infer_instance

theorem good_step (s : SW) (op : Op) (hg : Good s) (hok : OpOk op) : Good (step s op).1 := by
  cases op with
  | add r now => exact good_add s r now hg hok
  | addNoTs => exact hg
  | tick idle now =>
    exact
      { hg with
        htrig := fun w h => (Move.tick _ _ _).mono (hg.htrig w h)
        hchan := (Move.tick _ _ _).chan hg.hchan
        hpassed := fun h c hc => (Move.tick _ _ _).mono (hg.hpassed h c hc) }
  | pop => exact good_pop s hg
  | iter => exact good_iter s hg

end Sliding
