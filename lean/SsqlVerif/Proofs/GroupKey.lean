/-
Injectivity of the repaired key encoders (C04 / C09 / C16).  Every encoder writes a sequence of
tokens, and all are uniquely decodable for the one reason stated in `flatMap_cancel`.
-/
import SsqlVerif.Model.GroupKey
set_option autoImplicit false

namespace GroupKey

/-- Unique decoding of a token sequence `g a₁ ++ … ++ g aₙ ++ r`.  `P`: what may follow a token
(`hQ`, `hg`); `hend`: the rest `r` (`Q`) does not begin with a token; `hc`: tokens are a prefix code. -/
theorem flatMap_cancel {α A : Type} (g : A → List α) (P Q : List α → Prop)
    (hQ : ∀ r, Q r → P r) (hg : ∀ a r, P (g a ++ r)) (hend : ∀ a r r', Q r → r ≠ g a ++ r')
    (hc : ∀ a b r r', P r → P r' → g a ++ r = g b ++ r' → a = b ∧ r = r') :
    ∀ (xs ys : List A) (r r' : List α), Q r → Q r' →
      xs.flatMap g ++ r = ys.flatMap g ++ r' → xs = ys ∧ r = r' := by
  have hP : ∀ (zs : List A) (s : List α), Q s → P (zs.flatMap g ++ s) := fun zs s hs => by
    cases zs with
    | nil => exact hQ s hs
    | cons z zs =>
      rw [List.flatMap_cons, List.append_assoc]
      exact hg z _
  intro xs
  induction xs with
  | nil =>
    intro ys r r' hr _ h
    cases ys with
    | nil => exact ⟨rfl, h⟩
    | cons y ys =>
      rw [List.flatMap_cons, List.append_assoc] at h
      exact absurd h (hend y r _ hr)
  | cons x xs ih =>
    intro ys r r' hr hr' h
    cases ys with
    | nil =>
      rw [List.flatMap_cons, List.append_assoc] at h
      exact absurd h.symm (hend x r' _ hr')
    | cons y ys =>
      rw [List.flatMap_cons, List.flatMap_cons, List.append_assoc, List.append_assoc] at h
      obtain ⟨rfl, h'⟩ := hc x y _ _ (hP xs r hr) (hP ys r' hr') h
      obtain ⟨rfl, rfl⟩ := ih ys r r' hr hr' h'
      exact ⟨rfl, rfl⟩

theorem flatMap_injective {α A : Type} (g : A → List α) (P : List α → Prop)
    (h0 : P []) (hg : ∀ a r, P (g a ++ r)) (hne : ∀ a, g a ≠ [])
    (hc : ∀ a b r r', P r → P r' → g a ++ r = g b ++ r' → a = b ∧ r = r')
    (xs ys : List A) (h : xs.flatMap g = ys.flatMap g) : xs = ys :=
  (flatMap_cancel g P (· = []) (fun _ hr => hr ▸ h0) hg
    (fun a _ _ hr e => hne a (List.append_eq_nil_iff.1 (hr ▸ e).symm).1) hc
    xs ys [] [] rfl rfl (by rw [List.append_nil, List.append_nil, h])).1

section Esc
variable {α : Type} [DecidableEq α] (esc sep nul : α)

/-- what may follow a cell inside a joined key: nothing, or a separator -/
def Stop (r : List α) : Prop := ∀ c ∈ r.head?, c = sep

/-- the token `escStr` writes for one symbol -/
def escSym (c : α) : List α := if special esc sep c then [esc, c] else [c]

variable {esc sep nul}

theorem escStr_eq_flatMap (s : List α) : escStr esc sep s = s.flatMap (escSym esc sep) := by
  induction s with
  | nil => rfl
  | cons c cs ih =>
    rw [List.flatMap_cons, ← ih, escStr, escSym]
    split <;> rfl

theorem escSym_cases (c : α) :
    ((c = esc ∨ c = sep) ∧ escSym esc sep c = [esc, c]) ∨ (c ≠ esc ∧ c ≠ sep ∧ escSym esc sep c = [c]) := by
  by_cases h : c = esc ∨ c = sep
  · exact Or.inl ⟨h, if_pos (by simpa [special] using h)⟩
  · exact Or.inr ⟨fun e => h (Or.inl e), fun e => h (Or.inr e), if_neg (by simpa [special] using h)⟩

theorem escSym_not_stop (hes : esc ≠ sep) (c : α) (r : List α) : ¬ Stop sep (escSym esc sep c ++ r) := by
  intro h
  rcases escSym_cases c with ⟨_, hc⟩ | ⟨_, hs, hc⟩
  · rw [hc] at h
    exact hes (h esc rfl)
  · rw [hc] at h
    exact hs (h c rfl)

/-- an escaped symbol starts with `esc`, a plain one does not -/
theorem escSym_cancel {a b : α} {r r' : List α} (h : escSym esc sep a ++ r = escSym esc sep b ++ r') :
    a = b ∧ r = r' := by
  rcases escSym_cases a with ⟨_, ha⟩ | ⟨ha, _, ha'⟩
  · rcases escSym_cases b with ⟨_, hb⟩ | ⟨hb, _, hb'⟩
    · rw [ha, hb] at h
      injection h with _ h
      injection h with h1 h2
      exact ⟨h1, h2⟩
    · rw [ha, hb'] at h
      injection h with h _
      exact absurd h.symm hb
  · rcases escSym_cases b with ⟨_, hb⟩ | ⟨_, _, hb'⟩
    · rw [ha', hb] at h
      injection h with h _
      exact absurd h ha
    · rw [ha', hb'] at h
      injection h with h1 h2
      exact ⟨h1, h2⟩

theorem escStr_cancel (hes : esc ≠ sep) {s t r r' : List α} (hr : Stop sep r) (hr' : Stop sep r')
    (h : escStr esc sep s ++ r = escStr esc sep t ++ r') : s = t ∧ r = r' := by
  rw [escStr_eq_flatMap, escStr_eq_flatMap] at h
  exact flatMap_cancel (escSym esc sep) (fun _ => True) (Stop sep) (fun _ _ => trivial)
    (fun _ _ => trivial) (fun a _ r' hr e => escSym_not_stop hes a r' (e ▸ hr))
    (fun _ _ _ _ _ _ => escSym_cancel) s t r r' hr hr' h

theorem escCell_null_ne (hes : esc ≠ sep) (hne : nul ≠ esc) (hns : nul ≠ sep) {t r r' : List α}
    (hr' : Stop sep r') : [esc, nul] ++ r ≠ escStr esc sep t ++ r' := by
  intro h
  cases t with
  | nil => exact hes (hr' esc (congrArg List.head? h.symm))
  | cons d ds =>
    rw [escStr_eq_flatMap, List.flatMap_cons, List.append_assoc] at h
    rcases escSym_cases d with ⟨hd, hd'⟩ | ⟨hd, _, hd'⟩
    · rw [hd'] at h
      injection h with _ h
      injection h with h _
      exact hd.elim (fun e => hne (h.trans e)) (fun e => hns (h.trans e))
    · rw [hd'] at h
      injection h with h _
      exact hd h.symm

theorem escCell_cancel (hes : esc ≠ sep) (hne : nul ≠ esc) (hns : nul ≠ sep)
    {c d : Option (List α)} {r r' : List α} (hr : Stop sep r) (hr' : Stop sep r')
    (h : escCell esc sep nul c ++ r = escCell esc sep nul d ++ r') : c = d ∧ r = r' := by
  cases c with
  | none =>
    cases d with
    | none => exact ⟨rfl, List.append_cancel_left h⟩
    | some t => exact absurd h (escCell_null_ne hes hne hns hr')
  | some s =>
    cases d with
    | none => exact absurd h.symm (escCell_null_ne hes hne hns hr)
    | some t =>
      obtain ⟨rfl, h2⟩ := escStr_cancel hes hr hr' h
      exact ⟨rfl, h2⟩

theorem escTail_eq_flatMap (cs : List (Option (List α))) :
    escTail esc sep nul cs = cs.flatMap fun c => sep :: escCell esc sep nul c := by
  induction cs with
  | nil => rfl
  | cons c cs ih =>
    rw [escTail, ih, List.flatMap_cons]
    rfl

theorem escTail_stop (cs : List (Option (List α))) : Stop sep (escTail esc sep nul cs) := by
  cases cs with
  | nil => exact fun _ h => nomatch h
  | cons c cs => exact fun _ h => (Option.some.inj h).symm

/-- every cell of the tail is announced by its separator, so no arity hypothesis is needed -/
theorem escTail_injective (hes : esc ≠ sep) (hne : nul ≠ esc) (hns : nul ≠ sep)
    {xs ys : List (Option (List α))} (h : escTail esc sep nul xs = escTail esc sep nul ys) : xs = ys := by
  rw [escTail_eq_flatMap, escTail_eq_flatMap] at h
  exact flatMap_injective (fun c => sep :: escCell esc sep nul c) (Stop sep)
    (fun _ h => nomatch h) (fun _ _ _ h => (Option.some.inj h).symm) (fun _ => List.cons_ne_nil _ _)
    (fun _ _ _ _ hr hr' e => escCell_cancel hes hne hns hr hr' (List.cons.inj e).2) xs ys h

/-- the arity only separates the empty tuple from the tuple of one empty string -/
theorem escJoin_injective (hes : esc ≠ sep) (hne : nul ≠ esc) (hns : nul ≠ sep)
    (xs ys : List (Option (List α))) (hl : xs.length = ys.length)
    (h : escJoin esc sep nul xs = escJoin esc sep nul ys) : xs = ys := by
  cases xs with
  | nil => exact (List.eq_nil_of_length_eq_zero hl.symm).symm
  | cons x xs =>
    cases ys with
    | nil => exact nomatch hl
    | cons y ys =>
      obtain ⟨rfl, h2⟩ := escCell_cancel hes hne hns (escTail_stop xs) (escTail_stop ys) h
      rw [escTail_injective hes hne hns h2]

end Esc

theorem encBar_injective (xs ys : List (Option Str)) (hl : xs.length = ys.length)
    (h : encBar xs = encBar ys) : xs = ys :=
  escJoin_injective (by decide) (by decide) (by decide) xs ys hl h

theorem encWindow_injective (noKeys : Str) (xs ys : List (Option Str)) (hl : xs.length = ys.length)
    (h : encWindow noKeys xs = encWindow noKeys ys) : xs = ys := by
  cases xs with
  | nil => exact (List.eq_nil_of_length_eq_zero hl.symm).symm
  | cons x xs =>
    cases ys with
    | nil => exact nomatch hl
    | cons y ys => exact encBar_injective _ _ hl h

theorem encJoin_injective (xs ys : List Str) (hl : xs.length = ys.length)
    (h : encJoin xs = encJoin ys) : xs = ys :=
  (List.map_inj_right fun _ _ => Option.some.inj).1 <|
    escJoin_injective (by decide) (by decide) (by decide) _ _
      (by rw [List.length_map, List.length_map, hl]) h

theorem boolStr_injective (a b : Bool) (h : boolStr a = boolStr b) : a = b := by
  revert a b
  decide +kernel

theorem append_cons_cancel {α : Type} {c : α} {u v x y : List α} (hu : c ∉ u) (hv : c ∉ v)
    (h : u ++ c :: x = v ++ c :: y) : u = v ∧ x = y := by
  induction u generalizing v with
  | nil =>
    cases v with
    | nil => exact ⟨rfl, (List.cons.inj h).2⟩
    | cons b v => exact absurd (List.cons.inj h).1 (List.ne_of_not_mem_cons hv)
  | cons a u ih =>
    cases v with
    | nil => exact absurd (List.cons.inj h).1.symm (List.ne_of_not_mem_cons hu)
    | cons b v =>
      obtain ⟨rfl, h'⟩ := List.cons.inj h
      obtain ⟨rfl, rfl⟩ := ih (List.not_mem_of_not_mem_cons hu) (List.not_mem_of_not_mem_cons hv) h'
      exact ⟨rfl, rfl⟩

theorem toDigits_isDigit (n : Nat) : ∀ c ∈ Nat.toDigits 10 n, c.isDigit = true := fun _ hc =>
  Nat.isDigit_of_mem_toDigits (by decide) (by decide) hc

/-- a value cell starts with a digit, the NULL cell with NUL -/
theorem aggCell_null_ne {t : Str} {r r' : List Char} : aggCell none ++ r ≠ aggCell (some t) ++ r' := by
  intro h
  cases hd : Nat.toDigits 10 t.length with
  | nil => exact Nat.toDigits_ne_nil hd
  | cons c cs =>
    rw [aggCell, aggCell, hd] at h
    have hc := toDigits_isDigit t.length c (hd ▸ List.mem_cons_self)
    rw [← (List.cons.inj h).1] at hc
    exact absurd hc (by decide)

/-- the length prefix ends at the first `:`, tells how long the value is, and so where it ends -/
theorem aggCell_cancel {c d : Option Str} {r r' : List Char}
    (h : aggCell c ++ r = aggCell d ++ r') : c = d ∧ r = r' := by
  cases c with
  | none =>
    cases d with
    | none => exact ⟨rfl, List.append_cancel_left h⟩
    | some t => exact absurd h aggCell_null_ne
  | some s =>
    cases d with
    | none => exact absurd h.symm aggCell_null_ne
    | some t =>
      have hcolon (n : Nat) : ':' ∉ Nat.toDigits 10 n := fun m =>
        absurd (toDigits_isDigit n _ m) (by decide)
      simp only [aggCell, List.append_assoc, List.cons_append] at h
      obtain ⟨hlen, h'⟩ := append_cons_cancel (hcolon _) (hcolon _) h
      have hlen := congrArg (Nat.ofDigitChars 10 · 0) hlen
      simp only [Nat.ofDigitChars_ten_toDigits] at hlen
      obtain ⟨rfl, h''⟩ := List.append_inj h' hlen
      exact ⟨rfl, List.append_cancel_left h''⟩

theorem encAgg_injective : ∀ xs ys : List (Option Str), encAgg xs = encAgg ys → xs = ys :=
  flatMap_injective aggCell (fun _ => True) trivial (fun _ _ => trivial)
    (fun c => by cases c <;> simp [aggCell, aggNull]) (fun _ _ _ _ _ _ => aggCell_cancel)

end GroupKey
