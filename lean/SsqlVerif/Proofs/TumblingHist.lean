/-
The invariant `Hist` over the results the tumbling state machine has delivered, for every ALLOWEDLATENESS (C01, C02).
-/
import SsqlVerif.Proofs.TumblingInv
set_option autoImplicit false

namespace Tumbling
open Wm

/-- rows of the most recent delivery (first firing or late update) for the interval starting at `st` -/
def lastFor (st : Int) : List Emission → Option (List Row)
  | [] => none
  | e :: es => match lastFor st es with
    | some r => some r
    | none => if e.start = st then some e.rows else none

theorem lastFor_append_singleton (st : Int) (es : List Emission) (e : Emission) :
    lastFor st (es ++ [e]) = if e.start = st then some e.rows else lastFor st es := by
  induction es with
  | nil => simp [lastFor]
  | cons a es ih =>
    simp only [List.cons_append, lastFor, ih]
    by_cases h : e.start = st
    · simp [h]
    · simp [h]

theorem lastFor_some (st : Int) (es : List Emission) (rows : List Row) (h : lastFor st es = some rows) :
    ∃ e ∈ es, e.start = st := by
  induction es generalizing rows with
  | nil => cases h
  | cons e es ih =>
    unfold lastFor at h
    cases hl : lastFor st es with
    | some r =>
      obtain ⟨e', he', hs⟩ := ih r hl
      exact ⟨e', List.mem_cons_of_mem _ he', hs⟩
    | none =>
      rw [hl] at h
      by_cases hst : e.start = st
      · exact ⟨e, List.mem_cons_self, hst⟩
      · simp only [hst, if_false] at h
        cases h

/-- what holds of a delivered result `e` in every later state `s` -/
structure EmOk (s : TW) (e : Emission) : Prop where
  hpassed : Passed s (e.start + s.size)
  hstop : e.stop = e.start + s.size
  hfirst : e.kind = .first → s.size ∣ e.start ∧ e.rows ≠ [] ∧ ∀ r ∈ e.rows, inSlot s.size e.start r = true
  hlate : e.kind = .late → 0 < s.lateness

theorem emOk_step (s : TW) (op : Op) (e : Emission) (hg : Good s) (h : EmOk s e) : EmOk (step s op).1 e := by
  obtain ⟨h1, h2⟩ := step_frame s op
  refine ⟨?_, ?_, ?_, ?_⟩
  · rw [h1]
    exact passed_step s op _ hg h.hpassed
  · rw [h1]
    exact h.hstop
  · rw [h1]
    exact h.hfirst
  · rw [h2]
    exact h.hlate

theorem shared_row_same_start (s : TW) (hs : 0 < s.size) (e1 e2 : Emission) (r : Row)
    (h1 : EmOk s e1) (h2 : EmOk s e2) (hk1 : e1.kind = .first) (hk2 : e2.kind = .first)
    (hr1 : r ∈ e1.rows) (hr2 : r ∈ e2.rows) : e1.start = e2.start :=
  inSlot_unique s.size _ _ r hs (h1.hfirst hk1).1 (h2.hfirst hk2).1 ((h1.hfirst hk1).2.2 r hr1)
    ((h2.hfirst hk2).2.2 r hr2)

/-- `es`: the results delivered on the way to state `s`, oldest first -/
structure Hist (s : TW) (es : List Emission) : Prop where
  hem : ∀ e ∈ es, EmOk s e
  /-- late re-deliveries repeat an interval and are left out -/
  hincr : (es.filter (fun e => decide (e.kind = .first))).Pairwise (fun a b => a.start < b.start)
  /-- a late update changes exactly the entry it was found by -/
  hdistinct : s.fired.Pairwise (fun a b => a.start ≠ b.start)
  hsnap : ∀ f ∈ s.fired, lastFor f.start es = some f.snap

theorem hist_init (size ooo lateness : Int) : Hist (init size ooo lateness) [] :=
  ⟨fun _ h => (nomatch h), List.Pairwise.nil, List.Pairwise.nil, fun _ h => (nomatch h)⟩

/-- a registered interval was delivered, hence passed -/
theorem Hist.fired_passed {s : TW} {es : List Emission} (h : Hist s es) (f : Fired) (hf : f ∈ s.fired) :
    Passed s (f.start + s.size) := by
  obtain ⟨e, he, hs⟩ := lastFor_some _ _ _ (h.hsnap f hf)
  rw [← hs]
  exact (h.hem e he).hpassed

theorem hist_quiet (s : TW) (op : Op) (es : List Emission) (hg : Good s) (hh : Hist s es)
    (he : (step s op).2 = []) (hf : (step s op).1.fired.Sublist s.fired) :
    Hist (step s op).1 (es ++ (step s op).2) := by
  rw [he, List.append_nil]
  exact ⟨fun e h => emOk_step s op e hg (hh.hem e h), hh.hincr, hh.hdistinct.sublist hf,
    fun f h => hh.hsnap f (hf.subset h)⟩

theorem updFired_mem (s : TW) (f : Fired) (r : Row) (g : Fired) (hg : g ∈ updFired s f r) :
    ∃ g0 ∈ s.fired, g.start = g0.start ∧
      ((g0.start = f.start ∧ g.snap = lateRows s f r) ∨ (g0.start ≠ f.start ∧ g = g0)) := by
  obtain ⟨g0, hg0, rfl⟩ := List.mem_map.mp hg
  refine ⟨g0, hg0, ?_, ?_⟩
  · split <;> rfl
  · by_cases h : g0.start = f.start
    · exact Or.inl ⟨h, by rw [if_pos h]⟩
    · exact Or.inr ⟨h, by rw [if_neg h]⟩

theorem hist_lateUpdate (s : TW) (r : Row) (now : Int) (es : List Emission) (f : Fired) (hg : Good s)
    (hh : Hist s es) (h : fate s r now = .lateUpdate f) :
    Hist (stepAdd s r now).1 (es ++ (stepAdd s r now).2) := by
  obtain ⟨_, hlat, hff⟩ := fate_lateUpdate s r now f h
  obtain ⟨hmem, _, _⟩ := findFired_mem s r now f hff
  rcases stepAdd_cases s r now with ⟨hq, _⟩ | ⟨g, hg', he, hfd, _⟩
  · exact absurd h (hq f)
  rw [h] at hg'
  cases hg'
  rw [he]
  refine ⟨fun e hm => ?_, ?_, ?_, fun g hgm => ?_⟩
  · rcases List.mem_append.mp hm with hm | hm
    · exact emOk_step s (.add r now) e hg (hh.hem e hm)
    · rw [List.mem_singleton.mp hm]
      exact ⟨passed_step s (.add r now) _ hg (hh.fired_passed f hmem), rfl, fun hk => (nomatch hk), fun _ => hlat⟩
  · rw [List.filter_append]
    exact (List.append_nil _).symm ▸ hh.hincr
  · rw [hfd]
    unfold updFired
    rw [List.pairwise_map]
    -- `updFired` changes `snap` only, the starts are unchanged
    refine hh.hdistinct.imp fun {a b} hab => ?_
    split <;> split <;> exact hab
  · rw [hfd] at hgm
    obtain ⟨g0, hg0, hst, hcase⟩ := updFired_mem s f r g hgm
    rw [lastFor_append_singleton]
    show (if f.start = g.start then some (lateRows s f r) else lastFor g.start es) = some g.snap
    rcases hcase with ⟨h1, h2⟩ | ⟨h1, h2⟩
    · rw [if_pos (by rw [hst, h1]), h2]
    · rw [if_neg (by rw [hst]; exact fun h => h1 h.symm), h2]
      exact hh.hsnap g0 hg0

/-- `hold`: the earlier results are still fine in the new state (the caller has it from `emOk_step`) -/
theorem hist_fireOrSkip (s : TW) (c w : Int) (es : List Emission) (hg : Good s) (hh : Hist s es)
    (hcur : s.cur = some c) (htr : s.trigW = some w) (hw : c + s.size ≤ w)
    (hold : ∀ e ∈ es, EmOk (fireOrSkip s c).1 e) :
    Hist (fireOrSkip s c).1 (es ++ (fireOrSkip s c).2) := by
  obtain ⟨h1, _, h3, hsz, _⟩ := fireOrSkip_frame s c
  rcases fireOrSkip_emits s c with ⟨he, _, hfd⟩ | ⟨he, hne, hfd⟩ <;> rw [he]
  · rw [List.append_nil]
    exact ⟨hold, hh.hincr, hfd ▸ hh.hdistinct, fun f h => hh.hsnap f (hfd ▸ h)⟩
  have hsize := hg.hsize
  -- every registered interval and every earlier first firing has been passed, so it ends at or before `c`:
  -- the new start `c` is new to the registry and above all earlier first firings
  have hfired : ∀ f ∈ s.fired, f.start ≠ c := fun f hf =>
    Int.ne_of_lt (lt_of_add_le hsize ((hh.fired_passed f hf).le_cur hcur))
  have hmem : ∀ f ∈ (fireOrSkip s c).1.fired,
      f ∈ s.fired ∨ f = { start := c, close := c + s.size + s.lateness, snap := slotRows s c } := by
    intro f hf
    rw [hfd] at hf
    unfold firedAfter at hf
    split at hf
    · exact (List.mem_append.mp hf).imp_right List.mem_singleton.mp
    · exact Or.inl hf
  refine ⟨fun e hm => ?_, ?_, ?_, fun f hf => ?_⟩
  · rcases List.mem_append.mp hm with hm | hm
    · exact hold e hm
    · rw [List.mem_singleton.mp hm]
      obtain ⟨y, hy, hwy⟩ := hg.htrig w htr
      exact ⟨⟨c + s.size, h1, by rw [hsz]; exact Int.le_refl _, by rw [h3]; exact ⟨y, hy, Int.le_trans hw hwy⟩⟩,
        by rw [hsz], fun _ => by
          rw [hsz]
          exact ⟨hg.halign c hcur, hne, fun r hr => (List.mem_filter.mp hr).2⟩, fun hk => (nomatch hk)⟩
  · rw [List.filter_append, List.pairwise_append]
    refine ⟨hh.hincr, List.pairwise_singleton _ _, fun a ha b hb => ?_⟩
    rw [List.mem_singleton.mp hb]
    exact lt_of_add_le hsize ((hh.hem a (List.mem_filter.mp ha).1).hpassed.le_cur hcur)
  · rw [hfd]
    fun_cases firedAfter s c
    case case1 =>  -- registered
      rw [List.pairwise_append]
      refine ⟨hh.hdistinct, List.pairwise_singleton _ _, fun a ha b hb => ?_⟩
      rw [List.mem_singleton.mp hb]
      exact hfired a ha
    case case2 => exact hh.hdistinct  -- no allowance
  · rw [lastFor_append_singleton]
    show (if c = f.start then _ else _) = _
    rcases hmem f hf with h | h
    · rw [if_neg (fun h' => hfired f h h'.symm)]
      exact hh.hsnap f h
    · rw [h, if_pos rfl]

theorem hist_step (s : TW) (op : Op) (es : List Emission) (hg : Good s) (hh : Hist s es) :
    Hist (step s op).1 (es ++ (step s op).2) := by
  cases op with
  | add r now =>
    rcases stepAdd_cases s r now with ⟨_, h1, h2, _⟩ | ⟨f, hf, _⟩
    · exact hist_quiet s (.add r now) es hg hh h1 (h2 ▸ List.Sublist.refl _)
    · exact hist_lateUpdate s r now es f hg hh hf
  | addNoTs => exact hist_quiet s .addNoTs es hg hh rfl (List.Sublist.refl _)
  | tick idle now => exact hist_quiet s (.tick idle now) es hg hh rfl (List.Sublist.refl _)
  | pop => exact hist_quiet s .pop es hg hh rfl ((stepPop_frame s).2.2.2.2 ▸ List.Sublist.refl _)
  | iter =>
    have hold : ∀ e ∈ es, EmOk (stepIter s).1 e := fun e h => emOk_step s .iter e hg (hh.hem e h)
    show Hist (stepIter s).1 (es ++ (stepIter s).2)
    rcases stepIter_cases s with ⟨w, c, htr, hcur, hw, heq⟩ | ⟨w, c, _, _, _, heq⟩ | heq | heq <;> rw [heq] at hold ⊢
    · exact hist_fireOrSkip s c w es hg hh hcur htr hw hold
    · rw [List.append_nil]
      exact ⟨hold, hh.hincr, hh.hdistinct.sublist List.filter_sublist,
        fun f h => hh.hsnap f (List.mem_filter.mp h).1⟩
    · rw [List.append_nil]
      exact ⟨hold, hh.hincr, hh.hdistinct, hh.hsnap⟩
    · rw [List.append_nil]
      exact hh

theorem hist_run (s : TW) (ops : List Op) (es : List Emission) (hg : Good s) (hh : Hist s es)
    (hok : ∀ op ∈ ops, OpOk op) :
    Good (run s ops).1 ∧ Hist (run s ops).1 (es ++ (run s ops).2) := by
  induction ops generalizing s es with
  | nil => exact ⟨hg, (List.append_nil es).symm ▸ hh⟩
  | cons op ops ih =>
    have := ih (step s op).1 (es ++ (step s op).2) (good_step s op hg (hok op List.mem_cons_self))
      (hist_step s op es hg hh) (fun o ho => hok o (List.mem_cons_of_mem _ ho))
    rwa [List.append_assoc] at this

theorem hist_reach (size ooo lateness : Int) (hs : 0 < size) (ops : List Op) (hok : ∀ op ∈ ops, OpOk op) :
    Good (run (init size ooo lateness) ops).1 ∧
    Hist (run (init size ooo lateness) ops).1 (run (init size ooo lateness) ops).2 := by
  have := hist_run (init size ooo lateness) ops [] (good_init size ooo lateness hs) (hist_init size ooo lateness) hok
  rwa [List.nil_append] at this

end Tumbling
