/-
Grouping by an encoded key = partition by the key tuple, provided the encoder is injective on
the tuples of the batch (C04).
-/
import SsqlVerif.Model.GroupPartition
import SsqlVerif.Spec.GroupBy
set_option autoImplicit false
-- the section's three `DecidableEq` instances are arguments of every lemma below, used or not
set_option linter.unusedSectionVars false

namespace GroupPart
section
variable {κ σ ι : Type} [DecidableEq σ] [DecidableEq κ] [DecidableEq ι] (enc : κ → σ)

/-- member ids of the rows whose *encoded* key is `s` -/
def membersEnc (p : List (κ × ι)) (s : σ) : List ι :=
  (p.filter fun r => decide (enc r.1 = s)).map Prod.snd

theorem membersEnc_append (p q : List (κ × ι)) (s : σ) :
    membersEnc enc (p ++ q) s = membersEnc enc p s ++ membersEnc enc q s := by
  simp [membersEnc]

theorem membersEnc_singleton (r : κ × ι) (s : σ) :
    membersEnc enc [r] s = if enc r.1 = s then [r.2] else [] := by
  unfold membersEnc
  by_cases h : enc r.1 = s
  · rw [List.filter_cons_of_pos (by simpa using h), if_pos h]
    rfl
  · rw [List.filter_cons_of_neg (by simpa using h), if_neg h]
    rfl

/-- invariant of `groups` after the rows `p` -/
structure Inv (p : List (κ × ι)) (g : List (Entry κ σ ι)) : Prop where
  keyOf : ∀ e ∈ g, e.1 = enc e.2.1
  occurs : ∀ e ∈ g, ∃ r ∈ p, r.1 = e.2.1
  mem : ∀ e ∈ g, e.2.2 = membersEnc enc p e.1
  distinct : g.Pairwise fun e e' => e.1 ≠ e'.1
  covers : ∀ r ∈ p, ∃ e ∈ g, e.1 = enc r.1

/-- what `Add(r)` does to an entry that is there: the one of the row's key takes the row -/
def bump (r : κ × ι) (e : Entry κ σ ι) : Entry κ σ ι := (e.1, e.2.1, e.2.2 ++ membersEnc enc [r] e.1)

theorem bump_of_ne (r : κ × ι) (e : Entry κ σ ι) (h : e.1 ≠ enc r.1) : bump enc r e = e := by
  rw [bump, membersEnc_singleton, if_neg (Ne.symm h), List.append_nil]

theorem insertRow_of_absent (g : List (Entry κ σ ι)) (r : κ × ι) (h : ∀ e ∈ g, e.1 ≠ enc r.1) :
    insertRow enc g r = g ++ [(enc r.1, r.1, [r.2])] := by
  induction g with
  | nil => rfl
  | cons e rest ih =>
    rw [insertRow, if_neg (h e List.mem_cons_self), ih fun e' he' => h e' (List.mem_cons_of_mem _ he')]
    rfl

theorem insertRow_of_present (g : List (Entry κ σ ι)) (r : κ × ι)
    (hd : g.Pairwise fun e e' => e.1 ≠ e'.1) (e : Entry κ σ ι) (he : e ∈ g) (hk : e.1 = enc r.1) :
    insertRow enc g r = g.map (bump enc r) := by
  induction g with
  | nil => nomatch he
  | cons e0 rest ih =>
    obtain ⟨hd1, hd2⟩ := List.pairwise_cons.1 hd
    rw [insertRow, List.map_cons]
    by_cases hk0 : e0.1 = enc r.1
    · have hrest : rest.map (bump enc r) = rest :=
        (List.map_congr_left fun e' he' => bump_of_ne enc r e' (hk0 ▸ (hd1 e' he').symm)).trans
          (List.map_id _)
      rw [if_pos hk0, hrest, bump, membersEnc_singleton, if_pos hk0.symm]
    · rw [if_neg hk0, bump_of_ne enc r e0 hk0]
      rcases List.mem_cons.1 he with rfl | he
      · exact absurd hk hk0
      · rw [ih hd2 he]

theorem inv_nil : Inv enc ([] : List (κ × ι)) [] :=
  ⟨List.forall_mem_nil _, List.forall_mem_nil _, List.forall_mem_nil _, List.Pairwise.nil,
   List.forall_mem_nil _⟩

theorem inv_step (p : List (κ × ι)) (g : List (Entry κ σ ι)) (r : κ × ι) (h : Inv enc p g) :
    Inv enc (p ++ [r]) (insertRow enc g r) := by
  -- key present: `insertRow` bumps the entries; key absent: it appends the row's own entry
  by_cases hk : ∃ e ∈ g, e.1 = enc r.1
  · obtain ⟨e, he, hk⟩ := hk
    rw [insertRow_of_present enc g r h.distinct e he hk]
    refine ⟨?_, ?_, ?_, List.pairwise_map.2 h.distinct, ?_⟩
    · intro e' he' -- keyOf
      obtain ⟨e, he, rfl⟩ := List.mem_map.1 he'
      exact h.keyOf e he
    · intro e' he' -- occurs
      obtain ⟨e, he, rfl⟩ := List.mem_map.1 he'
      obtain ⟨r0, hr0, h0⟩ := h.occurs e he
      exact ⟨r0, List.mem_append_left _ hr0, h0⟩
    · intro e' he' -- mem
      obtain ⟨e, he, rfl⟩ := List.mem_map.1 he'
      rw [membersEnc_append]
      exact congrArg (· ++ membersEnc enc [r] e.1) (h.mem e he)
    · intro r0 hr0 -- covers
      obtain ⟨e0, he0, hk0⟩ : ∃ e ∈ g, e.1 = enc r0.1 := by
        rcases List.mem_append.1 hr0 with h0 | h0
        · exact h.covers r0 h0
        · cases List.mem_singleton.1 h0
          exact ⟨e, he, hk⟩
      exact ⟨bump enc r e0, List.mem_map_of_mem he0, hk0⟩
  · have hno : ∀ e ∈ g, e.1 ≠ enc r.1 := fun e he hke => hk ⟨e, he, hke⟩
    rw [insertRow_of_absent enc g r hno]
    refine ⟨?_, ?_, ?_, ?_, ?_⟩
    · intro e' he' -- keyOf
      rcases List.mem_append.1 he' with he' | he'
      · exact h.keyOf e' he'
      · cases List.mem_singleton.1 he'
        rfl
    · intro e' he' -- occurs
      rcases List.mem_append.1 he' with he' | he'
      · obtain ⟨r0, hr0, h0⟩ := h.occurs e' he'
        exact ⟨r0, List.mem_append_left _ hr0, h0⟩
      · cases List.mem_singleton.1 he'
        exact ⟨r, List.mem_append_right _ List.mem_cons_self, rfl⟩
    · intro e' he' -- mem
      rw [membersEnc_append, membersEnc_singleton]
      rcases List.mem_append.1 he' with he' | he'
      · rw [if_neg (Ne.symm (hno e' he')), List.append_nil]
        exact h.mem e' he'
      · cases List.mem_singleton.1 he'
        have hp : membersEnc enc p (enc r.1) = [] :=
          List.map_eq_nil_iff.2 <| List.filter_eq_nil_iff.2 fun r0 hr0 hk0 => by
            obtain ⟨e, he, hke⟩ := h.covers r0 hr0
            exact hno e he (hke.trans (of_decide_eq_true hk0))
        rw [hp, if_pos rfl]
        rfl
    · -- distinct
      refine List.pairwise_append.2 ⟨h.distinct, List.pairwise_singleton _ _, ?_⟩
      intro a ha b hb
      cases List.mem_singleton.1 hb
      exact hno a ha
    · intro r0 hr0 -- covers
      rcases List.mem_append.1 hr0 with h0 | h0
      · obtain ⟨e, he, hke⟩ := h.covers r0 h0
        exact ⟨e, List.mem_append_left _ he, hke⟩
      · cases List.mem_singleton.1 h0
        exact ⟨_, List.mem_append_right _ List.mem_cons_self, rfl⟩

theorem inv_foldl (rest p : List (κ × ι)) (g : List (Entry κ σ ι)) (h : Inv enc p g) :
    Inv enc (p ++ rest) (rest.foldl (insertRow enc) g) := by
  induction rest generalizing p g with
  | nil => rwa [List.append_nil]
  | cons r rest ih => simpa using ih _ _ (inv_step enc p g r h)

theorem inv_groups (rows : List (κ × ι)) : Inv enc rows (groups enc rows) := by
  simpa [groups] using inv_foldl enc rows [] [] (inv_nil enc)

theorem distinctKeys_of_pairwise (res : List (κ × List ι)) (h : res.Pairwise fun a b => a.1 ≠ b.1) :
    GroupBy.distinctKeys res = true := by
  induction res with
  | nil => rfl
  | cons a rest ih =>
    obtain ⟨h1, h2⟩ := List.pairwise_cons.1 h
    simp only [GroupBy.distinctKeys, Bool.and_eq_true, List.all_eq_true, decide_eq_true_eq]
    exact ⟨fun b hb heq => h1 b hb heq.symm, ih h2⟩

theorem results_partition (rows : List (κ × ι))
    (hinj : ∀ r ∈ rows, ∀ r' ∈ rows, enc r.1 = enc r'.1 → r.1 = r'.1) :
    GroupBy.partitionHolds rows (results enc rows) = true := by
  have inv := inv_groups enc rows
  -- key tuples of entries are tuples of rows, so injectivity applies to them
  have key_inj : ∀ e ∈ groups enc rows, ∀ r ∈ rows, enc r.1 = e.1 → r.1 = e.2.1 := by
    intro e he r hr heq
    obtain ⟨r0, hr0, h0⟩ := inv.occurs e he
    exact h0 ▸ hinj r hr r0 hr0 (by rw [heq, inv.keyOf e he, h0])
  have hm : ∀ e ∈ groups enc rows, e.2.2 = GroupBy.members rows e.2.1 := fun e he =>
    (inv.mem e he).trans <| congrArg (List.map Prod.snd) <| List.filter_congr fun r hr =>
      decide_eq_decide.2 ⟨key_inj e he r hr, fun h => h ▸ (inv.keyOf e he).symm⟩
  simp only [GroupBy.partitionHolds, results, Bool.and_eq_true, List.all_map, List.all_eq_true,
    List.any_map, List.any_eq_true, Function.comp, decide_eq_true_eq, Bool.not_eq_true',
    List.isEmpty_eq_false_iff]
  refine ⟨⟨?_, fun e he => ⟨hm e he, ?_⟩⟩, fun r hr => ?_⟩
  · refine distinctKeys_of_pairwise _ (List.pairwise_map.2 (inv.distinct.imp_of_mem ?_))
    intro a b ha hb hne heq
    exact hne (by rw [inv.keyOf a ha, inv.keyOf b hb, heq])
  · obtain ⟨r0, hr0, h0⟩ := inv.occurs e he
    rw [hm e he]
    exact List.ne_nil_of_mem (List.mem_map.2 ⟨r0, List.mem_filter.2 ⟨hr0, decide_eq_true h0⟩, rfl⟩)
  · obtain ⟨e, he, hk⟩ := inv.covers r hr
    exact ⟨e, he, (key_inj e he r hr hk.symm).symm⟩

end
end GroupPart
