/-
One step of the session-window state machine (`Model/Session.lean`): the shape of open and of delivered sessions,
what an Add does with a late and with an on-time row, conservation of rows by one Add and one expiry pass.
-/
import SsqlVerif.Model.Session
set_option autoImplicit false

namespace Session
open Wm

theorem maxLast_spec (l : List Sess) (m : Int) :
    (m ≤ maxLast l m ∧ ∀ s ∈ l, s.lastActive ≤ maxLast l m) ∧
    (maxLast l m = m ∨ ∃ s ∈ l, maxLast l m = s.lastActive) := by
  induction l generalizing m with
  | nil => exact ⟨⟨Int.le_refl _, fun _ h => nomatch h⟩, Or.inl rfl⟩
  | cons a l ih =>
    simp only [maxLast, List.mem_cons, forall_eq_or_imp, exists_eq_or_imp]
    by_cases h : m < a.lastActive
    · rw [if_pos h]
      obtain ⟨⟨h1, h2⟩, h3⟩ := ih a.lastActive
      exact ⟨⟨Int.le_trans (Int.le_of_lt h) h1, h1, h2⟩, Or.inr h3⟩
    · rw [if_neg h]
      obtain ⟨⟨h1, h2⟩, h3⟩ := ih m
      exact ⟨⟨h1, Int.le_trans (Int.not_lt.mp h) h1, h2⟩, h3.imp_right Or.inr⟩

theorem minStart_spec (l : List Sess) (m : Int) :
    (minStart l m ≤ m ∧ ∀ s ∈ l, minStart l m ≤ s.start) ∧
    (minStart l m = m ∨ ∃ s ∈ l, minStart l m = s.start) := by
  induction l generalizing m with
  | nil => exact ⟨⟨Int.le_refl _, fun _ h => nomatch h⟩, Or.inl rfl⟩
  | cons a l ih =>
    simp only [minStart, List.mem_cons, forall_eq_or_imp, exists_eq_or_imp]
    by_cases h : a.start < m
    · rw [if_pos h]
      obtain ⟨⟨h1, h2⟩, h3⟩ := ih a.start
      exact ⟨⟨Int.le_trans h1 (Int.le_of_lt h), h1, h2⟩, Or.inr h3⟩
    · rw [if_neg h]
      obtain ⟨⟨h1, h2⟩, h3⟩ := ih m
      exact ⟨⟨h1, Int.le_trans h1 (Int.not_lt.mp h), h2⟩, h3.imp_right Or.inr⟩

theorem perm_insertSorted (s : Sess) (l : List Sess) : (insertSorted s l).Perm (s :: l) := by
  fun_induction insertSorted s l with
  | case1 => exact .refl _
  | case2 x xs _ => exact .refl _  -- goes in front
  | case3 x xs _ ih => exact (ih.cons x).trans (.swap s x xs)

theorem perm_sortSess (l : List Sess) : (sortSess l).Perm l := by
  induction l with
  | nil => exact .refl _
  | cons a l ih => exact (perm_insertSorted a _).trans (ih.cons a)

theorem mem_sortSess (l : List Sess) (x : Sess) : x ∈ sortSess l ↔ x ∈ l := (perm_sortSess l).mem_iff

/-- what every open session of a reachable state satisfies; by `hstop` the second test of `expiredBy` implies the
first (`stop_le_of_expired`) -/
structure SessOk (timeout : Int) (s : Sess) : Prop where
  hne : s.rows ≠ []
  hstop : s.stop = s.lastActive + timeout
  hbounds : ∀ r ∈ s.rows, s.start ≤ r.ts ∧ r.ts ≤ s.lastActive
  hmin : ∃ r ∈ s.rows, r.ts = s.start
  hmax : ∃ r ∈ s.rows, r.ts = s.lastActive

def AllOk (w : SWin) : Prop := ∀ s ∈ w.sessions, SessOk w.timeout s

theorem SessOk.start_le_last {timeout : Int} {s : Sess} (h : SessOk timeout s) : s.start ≤ s.lastActive := by
  obtain ⟨m, hm, hmt⟩ := h.hmin
  exact hmt ▸ (h.hbounds m hm).2

theorem SessOk.start_lt_stop {timeout : Int} {s : Sess} (h : SessOk timeout s) (ht : 0 < timeout) :
    s.start < s.stop :=
  h.hstop ▸ Int.lt_add_of_le_of_pos h.start_le_last ht

/-- The session made of the sessions `l` and the row `r` (`merged` with key and `park` left free).  A new session is
the case `l = []`, so that an on-time Add is one case: the touched sessions are replaced by their fusion with the row. -/
def fuse (k : Key) (p : Nat) (timeout : Int) (l : List Sess) (r : Row) : Sess :=
  { key := k, park := p, rows := l.flatMap (·.rows) ++ [r], lastActive := maxLast l r.ts,
    start := minStart l r.ts, stop := maxLast l r.ts + timeout }

theorem newSess_eq_fuse (k : Key) (r : Row) (timeout : Int) (p : Nat) :
    newSess k r timeout p = fuse k p timeout [] r := rfl

theorem merged_eq_fuse (timeout : Int) (t : Sess) (os : List Sess) (r : Row) :
    merged timeout t os r = fuse t.key t.park timeout (t :: os) r := rfl

theorem mem_fuse_rows {k : Key} {p : Nat} {timeout : Int} {l : List Sess} {r x : Row} :
    x ∈ (fuse k p timeout l r).rows ↔ (∃ s ∈ l, x ∈ s.rows) ∨ x = r := by
  simp only [fuse, List.mem_append, List.mem_flatMap, List.mem_singleton]

theorem fuse_ok (k : Key) (p : Nat) (timeout : Int) (l : List Sess) (r : Row)
    (hall : ∀ s ∈ l, SessOk timeout s) : SessOk timeout (fuse k p timeout l r) := by
  obtain ⟨⟨hm, hM⟩, hMa⟩ := maxLast_spec l r.ts
  obtain ⟨⟨hn, hN⟩, hNa⟩ := minStart_spec l r.ts
  refine { hne := by simp [fuse], hstop := rfl, hbounds := ?_, hmin := ?_, hmax := ?_ }
  · intro x hx
    show minStart l r.ts ≤ x.ts ∧ x.ts ≤ maxLast l r.ts
    rcases mem_fuse_rows.mp hx with ⟨s, hs, hxs⟩ | rfl
    · have hb := (hall s hs).hbounds x hxs
      exact ⟨Int.le_trans (hN s hs) hb.1, Int.le_trans hb.2 (hM s hs)⟩
    · exact ⟨hn, hm⟩
  · rcases hNa with h | ⟨s, hs, h⟩
    · exact ⟨r, mem_fuse_rows.mpr (.inr rfl), h.symm⟩
    · obtain ⟨m, hm, hmt⟩ := (hall s hs).hmin
      exact ⟨m, mem_fuse_rows.mpr (.inl ⟨s, hs, hm⟩), hmt.trans h.symm⟩
  · rcases hMa with h | ⟨s, hs, h⟩
    · exact ⟨r, mem_fuse_rows.mpr (.inr rfl), h.symm⟩
    · obtain ⟨m, hm, hmt⟩ := (hall s hs).hmax
      exact ⟨m, mem_fuse_rows.mpr (.inl ⟨s, hs, hm⟩), hmt.trans h.symm⟩

/-- `SessOk` as it can be said of a delivery, which has no `lastActive` -/
def EmOk (timeout : Int) (e : Emission) : Prop :=
  e.rows ≠ [] ∧ (∀ r ∈ e.rows, e.start ≤ r.ts ∧ r.ts + timeout ≤ e.stop) ∧
  (∃ r ∈ e.rows, r.ts = e.start) ∧ (∃ r ∈ e.rows, r.ts + timeout = e.stop)

def openRows (w : SWin) : List Row := w.sessions.flatMap (·.rows)
def firstRows (es : List Emission) : List Row := (es.filter (fun e => !e.late)).flatMap (·.rows)

/-- the first delivery of a session, as the expiry pass and the manual flush emit it -/
def Sess.emit (s : Sess) : Emission :=
  { late := false, key := s.key, start := s.start, stop := s.stop, rows := s.rows }

theorem stepExpire_emits (w : SWin) (x : Int) :
    (stepExpire w x).2 = (sortSess (w.sessions.filter (expiredBy w x))).map Sess.emit := rfl

theorem flushAll_emits (w : SWin) : (flushAll w).2 = (sortSess w.sessions).map Sess.emit := rfl

theorem emOk_emit {timeout : Int} {s : Sess} (h : SessOk timeout s) : EmOk timeout s.emit := by
  obtain ⟨m, hm, hmt⟩ := h.hmax
  refine ⟨h.hne, fun r hr => ?_, h.hmin, m, hm, ?_⟩
  · refine ⟨(h.hbounds r hr).1, ?_⟩
    show r.ts + timeout ≤ s.stop
    exact h.hstop ▸ Int.add_le_add_right (h.hbounds r hr).2 timeout
  · show m.ts + timeout = s.stop
    rw [h.hstop, hmt]

theorem firstRows_map_emit (l : List Sess) : firstRows (l.map Sess.emit) = l.flatMap (·.rows) := by
  induction l with
  | nil => rfl
  | cons a l ih => exact congrArg (a.rows ++ ·) ih

theorem mem_expire_emits (w : SWin) (x : Int) (e : Emission) :
    e ∈ (stepExpire w x).2 ↔ ∃ s, (s ∈ w.sessions ∧ expiredBy w x s = true) ∧ s.emit = e := by
  simp only [stepExpire_emits, List.mem_map, mem_sortSess, List.mem_filter]

theorem stop_le_of_expired {w : SWin} {x : Int} {s : Sess} (hok : SessOk w.timeout s)
    (h : expiredBy w x s = true) : s.stop ≤ x := by
  simp only [expiredBy, Bool.or_eq_true, decide_eq_true_eq] at h
  exact h.elim id fun h => Int.le_of_lt (hok.hstop ▸ Int.add_lt_of_lt_sub_left h)

theorem touches_iff (timeout : Int) (k : Key) (ts : Int) (s : Sess) :
    touches timeout k ts s = true ↔ s.key = k ∧ s.start - timeout < ts ∧ ts < s.stop := by
  simp only [touches, Bool.and_eq_true, beq_iff_eq, decide_eq_true_eq, and_assoc]

theorem mem_touched (w : SWin) (k : Key) (r : Row) (s : Sess) :
    s ∈ touched w k r ↔ s ∈ w.sessions ∧ touches w.timeout k r.ts s = true := by
  unfold touched
  rw [mem_sortSess, List.mem_filter]

theorem filter_untouched {w : SWin} {k : Key} {r : Row} (ht : touched w k r = []) :
    w.sessions.filter (fun s => !touches w.timeout k r.ts s) = w.sessions :=
  List.filter_eq_self.mpr fun s hs => by
    cases hc : touches w.timeout k r.ts s
    · rfl
    · have := (mem_touched w k r s).mpr ⟨hs, hc⟩
      rw [ht] at this
      cases this

theorem fate_late (w : SWin) (k : Key) (r : Row) (now : Int) (hl : lateNow w r now = true) :
    (∃ t, fate w k r now = .lateAbsorb t) ∨ fate w k r now = .lateDrop := by
  fun_cases fate w k r now
  case case1 =>  -- late, allowance
    fun_cases lateFate w k r (wmAfter w r now).cur
    case case1 t _ => exact Or.inl ⟨t, rfl⟩  -- registration found
    case case2 => exact Or.inr rfl  -- none found
  case case2 => exact Or.inr rfl  -- late, no allowance
  case case3 hl' => exact absurd hl hl'  -- on time

theorem fate_ontime (w : SWin) (k : Key) (r : Row) (now : Int) (hl : lateNow w r now = false) :
    (fate w k r now = .create ∧ touched w k r = []) ∨
    (∃ t os, fate w k r now = .join t os ∧ touched w k r = t :: os) := by
  unfold fate
  rw [if_neg (by simp [hl])]
  unfold onTimeFate
  split
  · rename_i h  -- nothing touched
    exact Or.inl ⟨rfl, h⟩
  · rename_i t os h  -- touched `t :: os`
    exact Or.inr ⟨t, os, rfl, h⟩

theorem fate_join_iff (w : SWin) (k : Key) (r : Row) (now : Int) (t : Sess) (os : List Sess) :
    fate w k r now = .join t os ↔ lateNow w r now = false ∧ touched w k r = t :: os := by
  cases hl : lateNow w r now
  · rcases fate_ontime w k r now hl with ⟨hf, ht⟩ | ⟨t', os', hf, ht⟩ <;> rw [hf, ht]
    · exact ⟨fun h => (nomatch h), fun h => (nomatch h.2)⟩
    · refine ⟨fun h => ⟨rfl, ?_⟩, fun h => ?_⟩
      · cases h
        rfl
      · cases h.2
        rfl
  · refine ⟨fun h => ?_, fun h => (nomatch h.1)⟩
    rcases fate_late w k r now hl with ⟨t', hf⟩ | hf
    all_goals
      rw [hf] at h
      cases h

theorem fate_lateAbsorb_iff (w : SWin) (k : Key) (r : Row) (now : Int) (t : Trig) :
    fate w k r now = .lateAbsorb t ↔
      lateNow w r now = true ∧ 0 < w.lateness ∧ findTrig w k r.ts (wmAfter w r now).cur = some t := by
  fun_cases fate w k r now
  case case1 hl hlat =>  -- late, allowance
    fun_cases lateFate w k r (wmAfter w r now).cur
    case case1 t' ht =>  -- registration found
      rw [ht]
      refine ⟨fun h => ⟨hl, hlat, ?_⟩, fun h => ?_⟩
      · cases h
        rfl
      · cases h.2.2
        rfl
    case case2 ht =>  -- none found
      rw [ht]
      exact ⟨fun h => (nomatch h), fun h => (nomatch h.2.2)⟩
  case case2 hl hlat => exact ⟨fun h => (nomatch h), fun h => absurd h.2.1 hlat⟩  -- late, no allowance
  case case3 hl =>  -- on time
    refine ⟨?_, fun h => absurd h.1 hl⟩
    fun_cases onTimeFate w k r <;> exact fun h => (nomatch h)

theorem mem_of_findTrig {w : SWin} {k : Key} {ts : Int} {cur : Option Int} {t : Trig}
    (h : findTrig w k ts cur = some t) :
    t ∈ w.trig ∧ t.sess.key = k ∧ (t.sess.start ≤ ts ∧ ts < t.sess.stop) ∧ stillOpen cur t = true := by
  have h2 := List.find?_some h
  simp only [Bool.and_eq_true, beq_iff_eq, slotHas, decide_eq_true_eq] at h2
  exact ⟨List.mem_of_find?_eq_some h, h2.1.1, h2.1.2, h2.2⟩

theorem stillOpen_of_lt {cur : Option Int} {t : Trig} (h : ∀ c, cur = some c → c < t.close) : stillOpen cur t = true := by
  cases cur with
  | none => rfl
  | some c => exact decide_eq_true (h c rfl)

theorem add_emits_late (w : SWin) (k : Key) (r : Row) (now : Int) :
    ∀ e ∈ (stepAdd w k r now).2, e.late = true := by
  show ∀ e ∈ addEmit w k r now, e.late = true
  fun_cases addEmit w k r now
  case case1 t _ => exact fun e he => List.mem_singleton.mp he ▸ rfl  -- late, absorbed
  case case2 => exact fun e he => (nomatch he)

theorem firstRows_add (w : SWin) (k : Key) (r : Row) (now : Int) : firstRows (stepAdd w k r now).2 = [] := by
  have : (stepAdd w k r now).2.filter (fun e => !e.late) = [] :=
    List.filter_eq_nil_iff.mpr fun e he => by simp [add_emits_late w k r now e he]
  simp only [firstRows, this, List.flatMap_nil]

theorem stepAdd_late (w : SWin) (k : Key) (r : Row) (now : Int) (hl : lateNow w r now = true) :
    (stepAdd w k r now).1.sessions = w.sessions := by
  show addSessions w k r now = _
  unfold addSessions
  rcases fate_late w k r now hl with ⟨t, hf⟩ | hf <;> rw [hf]

theorem stepAdd_ontime (w : SWin) (k : Key) (r : Row) (now : Int) (hl : lateNow w r now = false) :
    (stepAdd w k r now).2 = [] ∧ ∃ p, (stepAdd w k r now).1.sessions =
      w.sessions.filter (fun s => !touches w.timeout k r.ts s) ++ [fuse k p w.timeout (touched w k r) r] := by
  show addEmit w k r now = [] ∧ ∃ p, addSessions w k r now = _
  unfold addEmit addSessions
  rcases fate_ontime w k r now hl with ⟨hf, ht⟩ | ⟨t, os, hf, ht⟩ <;> rw [hf, ht]
  · refine ⟨rfl, freshPark w k, ?_⟩
    rw [filter_untouched ht, newSess_eq_fuse]
  · have htt : t ∈ touched w k r := ht ▸ List.mem_cons_self
    have hk : t.key = k := ((touches_iff _ _ _ _).mp ((mem_touched w k r t).mp htt).2).1
    exact ⟨rfl, t.park, congrArg (_ ++ [·]) (hk ▸ merged_eq_fuse w.timeout t os r)⟩

theorem perm_split (l : List Sess) (p : Sess → Bool) :
    (l.filter (fun s => !p s) ++ sortSess (l.filter p)).Perm l :=
  (List.perm_append_comm.trans ((perm_sortSess _).append_right _)).trans (List.filter_append_perm p l)

theorem rows_split (l : List Sess) (p : Sess → Bool) :
    ((l.filter (fun s => !p s)).flatMap (·.rows) ++ (sortSess (l.filter p)).flatMap (·.rows)).Perm
      (l.flatMap (·.rows)) := by
  rw [← List.flatMap_append]
  exact (perm_split l p).flatMap_right _

theorem expire_perm (w : SWin) (x : Int) :
    (openRows (stepExpire w x).1 ++ firstRows (stepExpire w x).2).Perm (openRows w) := by
  rw [stepExpire_emits, firstRows_map_emit]
  exact rows_split w.sessions (expiredBy w x)

theorem add_perm (w : SWin) (k : Key) (r : Row) (now : Int) :
    (openRows (stepAdd w k r now).1 ++ firstRows (stepAdd w k r now).2).Perm
      (openRows w ++ acceptedBy w (.add k r now)) := by
  rw [firstRows_add, List.append_nil]
  unfold openRows acceptedBy
  cases hl : lateNow w r now
  · obtain ⟨_, p, hs⟩ := stepAdd_ontime w k r now hl
    rw [hs, List.flatMap_append, List.flatMap_singleton]
    simp only [hl, Bool.false_eq_true, if_false]
    show (_ ++ ((touched w k r).flatMap (·.rows) ++ [r])).Perm _
    rw [← List.append_assoc]
    exact (rows_split w.sessions (touches w.timeout k r.ts)).append_right [r]
  · rw [stepAdd_late w k r now hl]
    simp only [hl, if_true, List.append_nil]
    exact .refl _

end Session
