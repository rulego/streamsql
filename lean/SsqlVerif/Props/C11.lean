/-
C11 — SQL parser: total, layout-insensitive, faithful.  This file carries the *lexer layer*
(`rsql/lexer.go`, modelled completely in `Model/Lexer.lean`); the parser proper (`parser.go`, `ast.go`)
is not modelled — its faithfulness and layout-insensitivity are checked per run by the
translation-validation oracle `Spec/ParserTV.lean`, and its totality is searched, not proved.
-/
import SsqlVerif.Proofs.LexerRender
set_option autoImplicit false

namespace C11
open Lexer LexSpec

/-- Every `NextToken` call that does not return EOF consumes at least one byte and never reads past
the end of the input — for every input (any bytes, NUL and invalid UTF-8 included). -/
theorem lex_progress (s : List Byte) :
    (nextToken s).2 ≤ s.length ∧ ((nextToken s).1.kind ≠ .eof → 1 ≤ (nextToken s).2) :=
  ⟨nextToken_le s, nextToken_pos s⟩

/-- `lexAll` — defined by *structural* recursion on the input, so Lean's termination check is the
termination proof, no fuel — is exactly the loop "call `NextToken` until it returns `TokenEOF`" on the
remaining input. -/
theorem lex_terminates (s : List Byte) :
    lexAll s = if (nextToken s).1.kind = .eof then [eofTok]
               else (nextToken s).1 :: lexAll (s.drop (nextToken s).2) :=
  lexAll_unfold s

/-- Totality: every byte string yields a finite token list — some non-EOF tokens (at most one per input
byte) followed by exactly one EOF token.  The lexer has no failing branch: unterminated literals,
invalid numbers and unexpected characters still produce this shape (they only add entries to the
error list, `Lexer.nextErrs`). -/
theorem lex_total (s : List Byte) :
    ∃ ts, lexAll s = ts ++ [eofTok] ∧ (∀ t ∈ ts, t.kind ≠ .eof) ∧ ts.length ≤ s.length :=
  lexAux_shape 0 s

/-- Faithfulness of the lexer: what a `NextToken` call consumes is skipped junk (whitespace, unexpected
characters, a `!` not followed by `=`) followed by *exactly* the token's value — token values are
contiguous slices of the input, nothing is rewritten, reordered or invented. -/
theorem lex_token_is_slice (s : List Byte) :
    s.take (nextToken s).2 = s.take (junkLen s) ++ (nextToken s).1.val :=
  nextToken_slice s

/-- For every list of well-formed source tokens, **any** whitespace layout that keeps apart the token pairs
named by the explicit separation predicate `needSep`, and **any** case variation of the words, the lexer
returns exactly the source tokens: kind from the source token (a word spelling a keyword in any letter case
is that keyword), value = the spelling as written. -/
theorem lex_layout_insensitive (ps : List Placed) (trail : List Byte)
    (hv : AllValid ps = true) (hl : LayoutOk ps trail = true) (hs : Sep ps = true) :
    lexAll (render ps trail) = expected ps :=
  lexAll_render ps trail hv hl hs

/-- Two layouts / keyword spellings of the same statement give the same token kinds, and — when the case
variation touches keywords only — the same tokens up to keyword spelling. -/
theorem lex_layout_pair (ps₁ ps₂ : List Placed) (t₁ t₂ : List Byte)
    (hsrc : ps₁.map (·.src) = ps₂.map (·.src))
    (hv₁ : AllValid ps₁ = true) (hl₁ : LayoutOk ps₁ t₁ = true) (hs₁ : Sep ps₁ = true)
    (hv₂ : AllValid ps₂ = true) (hl₂ : LayoutOk ps₂ t₂ = true) (hs₂ : Sep ps₂ = true) :
    (lexAll (render ps₁ t₁)).map Token.kind = (lexAll (render ps₂ t₂)).map Token.kind ∧
    ((∀ p ∈ ps₁, maskKwOnly p = true) → (∀ p ∈ ps₂, maskKwOnly p = true) →
      (lexAll (render ps₁ t₁)).map normTok = (lexAll (render ps₂ t₂)).map normTok) := by
  rw [lexAll_render ps₁ t₁ hv₁ hl₁ hs₁, lexAll_render ps₂ t₂ hv₂ hl₂ hs₂]
  constructor
  · rw [expected_map _ Src.kind ps₁ fun _ _ => rfl, expected_map _ Src.kind ps₂ fun _ _ => rfl, hsrc]
  · intro h₁ h₂
    rw [expected_map _ canon ps₁ fun p hp => normTok_emit p (h₁ p hp),
      expected_map _ canon ps₂ fun p hp => normTok_emit p (h₂ p hp), hsrc]

/-- A keyword is recognised in every letter case, and no case variation turns an identifier into a
keyword or a keyword into another one. -/
theorem lex_keyword_case_insensitive (m : List Bool) (w : List Byte) :
    wordKind (applyMask m w) = wordKind w :=
  wordKind_applyMask m w

/-- Bytes between two quotes (either quote character; no quote of that kind and no NUL inside) lex to exactly
one `String` token with that text — whatever keywords, operators, whitespace or quotes of the other kind they
contain — and lexing resumes right after the closing quote. -/
theorem lex_literal_opaque (q : Byte) (hq : q = 39 ∨ q = 34) (body pre rest : List Byte)
    (hb : ∀ c ∈ body, c ≠ q ∧ c ≠ 0) (hp : ∀ c ∈ pre, isWs c = true) :
    lexAll (pre ++ (q :: (body ++ [q]) ++ rest)) = ⟨.string, q :: (body ++ [q])⟩ :: lexAll rest :=
  lexAll_src (.str q body) [] pre rest (by simpa [Src.valid] using ⟨hq, hb⟩) (okNext_of_cont_false (fun _ => rfl) rest) hp

/-- The same for backtick identifiers: one `QuotedIdent` token, whatever is between the backticks. -/
theorem lex_backtick_opaque (body pre rest : List Byte)
    (hb : ∀ c ∈ body, c ≠ 96 ∧ c ≠ 0) (hp : ∀ c ∈ pre, isWs c = true) :
    lexAll (pre ++ (96 :: (body ++ [96]) ++ rest)) = ⟨.qident, 96 :: (body ++ [96])⟩ :: lexAll rest :=
  lexAll_src (.qid body) [] pre rest (by simpa [Src.valid] using hb) (okNext_of_cont_false (fun _ => rfl) rest) hp

section examples
private def b (s : String) : List Byte := bytesOf s

/-- `select a FROM t` in two layouts/spellings: same kinds -/
example : (lexAll (b "select a\n\tFROM t")).map Token.kind =
    (lexAll (b "SeLeCt  a from\r\nt ")).map Token.kind := by decide +kernel

example : (lexAll (b "select a FROM t")).map Token.kind = [.kw 0, .ident, .kw 1, .ident, .eof] := by decide +kernel

/-- the hypotheses of `lex_layout_insensitive` are satisfiable, with tokens touching and case varied -/
example : let ps : List Placed := [⟨.word (b "WHERE"), [], [true, false, true]⟩, ⟨.word (b "x"), [32], []⟩,
                                   ⟨.op .ge, [], []⟩, ⟨.num true (b "1.5"), [], []⟩,
                                   ⟨.str 39 (b "LIMIT 1"), [10], []⟩]
    AllValid ps = true ∧ LayoutOk ps [13, 10] = true ∧ Sep ps = true ∧
    render ps [13, 10] = b "wHeRE x>=-1.5\n'LIMIT 1'\r\n" ∧
    lexAll (render ps [13, 10]) = expected ps := by
  intro ps
  have h : AllValid ps = true ∧ LayoutOk ps [13, 10] = true ∧ Sep ps = true ∧
      render ps [13, 10] = b "wHeRE x>=-1.5\n'LIMIT 1'\r\n" := by decide +kernel
  exact ⟨h.1, h.2.1, h.2.2.1, h.2.2.2, lex_layout_insensitive ps _ h.1 h.2.1 h.2.2.1⟩

/-- `Sep` is needed: without whitespace `a` `b` glue into one identifier, `-` `1` into a number -/
example : lexAll (b "ab") = [⟨.ident, b "ab"⟩, eofTok] ∧
    lexAll (b "a-1") = [⟨.ident, b "a"⟩, ⟨.number, b "-1"⟩, eofTok]
    ∧ lexAll (b "a - 1") = [⟨.ident, b "a"⟩, ⟨.minus, b "-"⟩, ⟨.number, b "1"⟩, eofTok] := by decide +kernel

/-- a literal full of keywords is one token; an identifier containing a keyword is one identifier -/
example : lexAll (b "'x ORDER BY y LIMIT 1' limit_x `from`") =
    [⟨.string, b "'x ORDER BY y LIMIT 1'"⟩, ⟨.ident, b "limit_x"⟩, ⟨.qident, b "`from`"⟩, eofTok] := by decide +kernel

/-- totality on junk: NUL ends the input, invalid bytes are skipped, an unterminated literal is still a token -/
example : lexAll [35, 255, 97, 0, 98] = [⟨.ident, [97]⟩, eofTok] ∧
    lexAll (b "! 'abc") = [⟨.string, b "'abc"⟩, eofTok] := by decide +kernel

example : nextToken (b "  !x") = (⟨.ident, b "x"⟩, 4) ∧ junkLen (b "  !x") = 3 := by decide +kernel
end examples

/-- the keyword table of `lookupIdent`, in source order; one token constant per case -/
theorem facts_keywords :
    Facts.rsql_Lexer_lookupIdent_strlits =
      ["SELECT", "FROM", "WHERE", "GROUP", "BY", "AS", "OR", "AND", "TUMBLINGWINDOW", "SLIDINGWINDOW",
       "COUNTINGWINDOW", "SESSIONWINDOW", "GLOBAL", "WINDOW", "TRIGGER", "WITH", "TIMESTAMP", "TIMEUNIT",
       "MAXOUTOFORDERNESS", "ALLOWEDLATENESS", "IDLETIMEOUT", "STATETTL", "ORDER", "DISTINCT", "LIMIT",
       "HAVING", "LIKE", "IS", "NULL", "NOT", "CASE", "WHEN", "THEN", "ELSE", "END", "OVER", "PARTITION"] ∧
    kwCodes.length = Facts.rsql_Lexer_lookupIdent_strlits.length := by decide +kernel

/-- the misspellings `checkForTypos` reports (its case labels, each group followed by the suggestion;
the last literal is the message format) -/
theorem facts_typos :
    Facts.rsql_Lexer_checkForTypos_strlits =
      ["SELCT", "SELECCT", "SELET", "SELECT", "FORM", "FRON", "FRMO", "FROM", "WHER", "WHRE", "WEHRE", "WHERE",
       "GROPU", "GRUP", "GRPUP", "GROUP", "ODER", "ORDR", "OREDR", "ORDER", "DSITINCT", "DISTINC", "DISTINT",
       "DISTINCT", "Unknown keyword '%s'"] := by decide +kernel

/-- the `TokenType` enumeration: the 62 kinds of the model carry 62 pairwise distinct codes in `0..61`
(so the kind ↔ Go token type translation of the driver is a bijection), and the lexical error types
are the four distinct constants of `error.go` -/
theorem facts_token_codes :
    (allKinds.map Kind.code).Nodup ∧ allKinds.length = 62 ∧
    (∀ c ∈ allKinds.map Kind.code, 0 ≤ c ∧ c < 62) ∧
    ([LexErr.unexpectedChar, .invalidNumber, .unterminated, .typo].map LexErr.code) = [1, 7, 8, 6] := by decide +kernel

end C11
