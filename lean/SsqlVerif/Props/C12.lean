/-
C12 — predicate fast paths decide exactly as the general evaluator.
Numbers: float64 values are exact (`Cond.F64`: NaN, ±Inf, or an integer count of 2^-1074 units),
`float64(int)` is the exact rounding function `Cond.round53`; no theorem mentions Lean's `Float`.
The general evaluator is the expr-lang behaviour table `Cond.generalEval` (validated by
correspondence only, see `cfg/C12.py` assumptions).
-/
import SsqlVerif.Proofs.Cond
import SsqlVerif.Proofs.CondShape
import SsqlVerif.Spec.Cond
import SsqlVerif.Generated.Facts
set_option autoImplicit false

namespace C12
open Cond

/-- A single-comparison shortcut that answers, answers what the general evaluator answers (which
then does not fail): for every column value — missing, NULL, bool, string, the ten integer widths
over their whole range, float32/float64 with NaN and ±Inf, anything else — operator and literal. -/
theorem fast_agrees (c : Cmp) (row : Row) (b : Bool)
    (h : fastEval c row = some b) : generalCmp c row = .ok b :=
  fastEval_agrees h

example : fastEval ⟨['x'], .gt, .int 5⟩ [(['x'], .int (.u64 7))] = some true := by decide +kernel
example : fastEval ⟨['x'], .eq, .int 9007199254740991⟩ [(['x'], .int (.i64 9007199254740993))] = none := by decide +kernel
example : fastEval ⟨['x'], .lt, .flt (.fin 5)⟩ [(['x'], .flt false .nan)] = some false := by decide +kernel

/-- the value is of a type (and, for 64-bit integers, a size) the shortcut for this literal handles -/
def fits (v : Val) (lit : Lit) : Bool :=
  match lit, v with
  | .str _, .str _ => true
  | .str _, _ => false
  | _, v => (toFloat64Fast v).isSome

theorem fastVal_isSome (v : Val) (op : Op) (lit : Lit) : (fastVal v op lit).isSome = fits v lit := by
  cases lit with
  | str t => cases v <;> rfl
  | _ =>
    simp only [fastVal, fastNum, fits]
    cases toFloat64Fast v <;> rfl

/-- All fall-back exits of the single-comparison shortcut, and only those: it declines exactly when
the column is missing, NULL, or its value does not fit the literal's kind (string literal: not a
string; numeric literal: not one of float64/float32/int/int64/int32/uint/uint64/uint32, or a
64-bit integer outside ±(2^53−1)). -/
theorem fast_declines_iff (c : Cmp) (row : Row) :
    fastEval c row = none ↔
      (row.get c.field = none ∨ row.get c.field = some .null ∨
        ∃ v, row.get c.field = some v ∧ fits v c.lit = false) := by
  unfold fastEval
  cases row.get c.field with
  | none => simp
  | some v =>
    have := fastVal_isSome v c.op c.lit
    cases v <;> simp [← this]

example : fits (.int (.i8 5)) (.int 5) = false ∧ fits (.int (.i32 5)) (.int 5) = true ∧
    fits (.int (.u64 9007199254740992)) (.flt (.fin 0)) = false ∧ fits (.str []) (.int 5) = false ∧
    fits (.flt true .nan) (.int 5) = true := by decide +kernel

/-- The same for a flat `&&` / `||` chain: it answers only if every part answers, and then the
left-to-right short-circuit evaluation of the general evaluator gives the same Boolean. -/
theorem fast_compound_agrees (isAnd : Bool) (cs : List Cmp) (row : Row) (b : Bool) (p : Pred)
    (hp : chainPred isAnd cs = some p)
    (h : fastCompound isAnd cs row = some b) : generalEval p row = .ok b :=
  fastCompound_agrees hp h

example : fastCompound false [⟨['x'], .gt, .int 5⟩, ⟨['y'], .eq, .str ['a']⟩]
    [(['x'], .int (.i8 3)), (['y'], .str ['a'])] = none := by decide +kernel
example : fastCompound false [⟨['x'], .gt, .int 5⟩, ⟨['y'], .eq, .str ['a']⟩]
    [(['x'], .int (.i32 3)), (['y'], .str ['a'])] = some true := by decide +kernel

/-- `Evaluate` decides as the general evaluator decides, for every condition whose shortcuts were
compiled from the predicate its program evaluates (`CondM.Sound`), and every row. -/
theorem evaluate_eq_general (c : CondM) (hs : c.Sound) (row : Row) :
    c.evaluate row = SpecC12.generalDecision c.pred row := by
  unfold CondM.evaluate
  cases h : c.fastPath row with
  | none => rfl
  | some b =>
    rw [SpecC12.generalDecision, fastPath_agrees hs h]
    rfl

/-- non-vacuity: a sound condition that takes the shortcut, falls back, and rejects on an error -/
example : ∃ c : CondM, c.Sound ∧
    c.fastPath [(['x'], .int (.i 7))] = some true ∧
    c.fastPath [(['x'], .int (.i8 7))] = none ∧ c.evaluate [(['x'], .int (.i8 7))] = true ∧
    generalEval c.pred [(['x'], .null)] = .err ∧ c.evaluate [(['x'], .null)] = false :=
  ⟨⟨.cmp ⟨['x'], .gt, .int 5⟩, some ⟨['x'], .gt, .int 5⟩, none⟩,
   ⟨fun f hf => Option.some.inj hf ▸ rfl, fun _ _ h => nomatch h⟩,
   by decide +kernel, by decide +kernel, by decide +kernel, by decide +kernel, by decide +kernel⟩

/-- A predicate whose evaluation fails rejects the row (and `Evaluate` is a total Boolean function:
there is no other outcome, in particular no abort). -/
theorem eval_total_bool (c : CondM) (hs : c.Sound) (row : Row)
    (herr : generalEval c.pred row = .err) : c.evaluate row = false := by
  rw [evaluate_eq_general c hs row, SpecC12.generalDecision, herr]
  rfl

example : generalEval (.cmp ⟨['x'], .lt, .int 5⟩) [(['x'], .null)] = .err := by decide +kernel
example : generalEval (.or (.cmp ⟨['y'], .eq, .int 1⟩) (.cmp ⟨['x'], .lt, .int 5⟩)) [(['y'], .int (.i 1))] =
    .ok true := by decide +kernel
example : generalEval (.or (.cmp ⟨['x'], .lt, .int 5⟩) (.cmp ⟨['y'], .eq, .int 1⟩)) [(['y'], .int (.i 1))] = .err := by
  decide +kernel

/-- Parentheses around a predicate (the twin that forces the general path) do not change what the
general evaluator answers. -/
theorem paren_equiv (p : Pred) (row : Row) : generalEval (.paren p) row = generalEval p row := rfl

/-- The property as observed: for a sound condition the observables of the Spec — decision,
decision of the parenthesised twin, shortcut answer, evaluation failure of the program — satisfy
`SpecC12.holds`. -/
theorem spec_holds (c : CondM) (hs : c.Sound) (row : Row) :
    SpecC12.holds { ev := c.evaluate row, twin := SpecC12.generalDecision (.paren c.pred) row,
                    fast := c.fastPath row,
                    failed := decide (generalEval c.pred row = .err) } = true := by
  have h1 := evaluate_eq_general c hs row
  simp only [SpecC12.holds, SpecC12.decisionAgrees, SpecC12.shortcutAgrees, SpecC12.failureRejects,
    SpecC12.generalDecision, paren_equiv] at *
  cases hf : c.fastPath row with
  | none =>
    cases hg : generalEval c.pred row <;> simp [h1, hg, Res.decision]
  | some b => simp [h1, fastPath_agrees hs hf, Res.decision]

/-- The recogniser that stands for the two shape regexes accepts exactly the texts
`ws column ws OP ws literal ws` (identifier, one of the eight operator spellings, `-?digits[.digits]`
or `'…'` without a quote inside) and returns exactly those three tokens. -/
theorem shape_cmp_iff (t : Str) (r : RawCmp) :
    matchCmp t = some r ↔
      ∃ w1 w2 w3 w4, allWs w1 = true ∧ allWs w2 = true ∧ allWs w3 = true ∧ allWs w4 = true ∧
        t = r.render w1 w2 w3 w4 ∧ r.wf = true := by
  constructor
  · exact matchCmp_sound
  · rintro ⟨w1, w2, w3, w4, h1, h2, h3, h4, ht, hwf⟩
    rw [ht]
    exact matchCmp_complete r w1 w2 w3 w4 hwf h1 h2 h3 h4

example : matchCmp [' ', 'x', '1', ' ', '>', '=', '-', '5', '.', '5', '0', '\t'] =
    some ⟨['x', '1'], .ge, .num true ['5'] (some ['5', '0'])⟩ := by decide +kernel
example : matchCmp ['x', ' ', '=', ' ', '=', ' ', '5'] = none := by decide +kernel
example : matchCmp ['x', ' ', '=', '=', ' ', '\'', 'i', 't', '\'', '\'', 's', '\''] = none := by decide +kernel

/-- `tryFastCompare` fires only on such a text, and only when the literal and the column name are
ones expr-lang reads the same way (`RawCmp.ok`). -/
theorem shape_compare_sound (t : Str) (r : RawCmp) (h : tryFastCompare t = some r) :
    matchCmp t = some r ∧ r.ok = true :=
  Option.filter_eq_some_iff.1 h

example : tryFastCompare ['n', 'i', 'l', ' ', '=', '=', ' ', '1'] = none := by decide +kernel
example : tryFastCompare ['x', ' ', '=', '=', ' ', '\'', 'a', '\\', 'n', 'b', '\''] = none := by decide +kernel
example : tryFastCompare ['x', ' ', '=', '=', ' ', '\'', 'a', '\r', 'b', '\''] = none := by decide +kernel
example : (tryFastCompare ['x', ' ', '=', '=', ' ', '\'', 'a', 'b', '\'']).isSome = true := by decide +kernel

/-- `tryFastCompound` fires only on a text without parentheses that is `part && part && …`
(all `&&`) or `part || part || …` (all `||`), every part a text `tryFastCompare` fires on. -/
theorem shape_compound_sound (t : Str) (isAnd : Bool) (rs : List RawCmp)
    (h : tryFastCompound t = some (isAnd, rs)) :
    t.contains '(' = false ∧ t.contains ')' = false ∧
    t = joinWith (if isAnd then ['&', '&'] else ['|', '|']) (splitOps t []) ∧
    allParts (splitOps t []) = some rs := by
  simp only [tryFastCompound, Option.ite_none_left_eq_some, Option.map_eq_some_iff, Prod.mk.injEq,
    Bool.or_eq_true, not_or, Bool.not_eq_true, Bool.and_eq_true] at h
  obtain ⟨⟨hp1, hp2⟩, hboth, -, cs, hparts, rfl, rfl⟩ := h
  refine ⟨hp1, hp2, ?_, hparts⟩
  cases hand : hasPair '&' t with
  | true =>
    have hor : hasPair '|' t = false := by simpa [hand] using hboth
    simpa using splitOps_join '&' '|' (Or.inl ⟨rfl, rfl⟩) t [] hor
  | false => simpa using splitOps_join '|' '&' (Or.inr ⟨rfl, rfl⟩) t [] hand

example : (tryFastCompound ['x', ' ', '>', ' ', '1', ' ', '&', '&', ' ', 'y', ' ', '=', '=', ' ', '\'', 'b', '\'', ' ', '&', '&',
    'z', '<', '3']).map (fun x => (x.1, x.2.length)) = some (true, 3) := by decide +kernel
example : tryFastCompound ['x', ' ', '>', ' ', '1', ' ', '&', '&', ' ', 'y', ' ', '=', '=', ' ', '\'', 'b', '\'', ' ',
    '|', '|', ' ', 'z', '<', '3'] = none := by decide +kernel
example : tryFastCompound ['(', 'x', ' ', '>', ' ', '1', ')', ' ', '&', '&', ' ', 'y', ' ', '<', ' ', '2'] = none := by
  decide +kernel

/-- From the text: a condition built by `NewExprCondition` from a text whose recognised shapes
denote the predicate expr-lang compiled (`parseAgrees`, the one assumption about expr-lang's parser;
the driver evaluates it on every generated case) decides as the general evaluator decides. -/
theorem newCond_evaluate (t : Str) (p : Pred) (c : CondM) (hparse : parseAgrees t p = true)
    (h : newCond t (some p) = some c) (row : Row) :
    c.evaluate row = SpecC12.generalDecision p row := by
  have hp : c.pred = p := by
    simp only [newCond, Option.map_some, Option.some.injEq] at h
    rw [← h]
  rw [← hp]
  exact evaluate_eq_general c (newCond_sound hparse h) row

example : parseAgrees ['x', ' ', '>', ' ', '1', ' ', '&', '&', ' ', 'y', ' ', '<', ' ', '2']
    (.and (.cmp ⟨['x'], .gt, .int 1⟩) (.cmp ⟨['y'], .lt, .int 2⟩)) = true := by decide +kernel
example : parseAgrees ['x', ' ', '>', ' ', '1', ' ', '&', '&', ' ', 'y', ' ', '<', ' ', '2']
    (.cmp ⟨['x'], .gt, .int 1⟩) = false := by decide +kernel

/-- `float64(i)` is `i` strictly inside ±2^53. -/
theorem round53_exact (i : Int) (h : exactInt i = true) : round53 i = i := round53_of_exact h

/-- The float64 image of an integer strictly inside ±2^53 compares with the float64 image of *any* integer
(the shortcut's `numLit` for an integer literal of any size) exactly as with that integer: no
guard on the literal is needed once the value guard is strict. -/
theorem exact_vs_rounded_literal (x : Int) (hx : exactInt x = true) (n : Int) (op : Op) :
    compareNum (F64.ofInt x) op (F64.ofInt n) = compareInt x op n :=
  compareNum_ofInt hx n op

example : round53 9007199254740993 = 9007199254740992 := by decide +kernel
example : round53 9007199254740995 = 9007199254740996 := by decide +kernel
example : round53 (-9007199254740993) = -9007199254740992 := by decide +kernel
example : round53 18446744073709551615 = 18446744073709551616 := by decide +kernel
example : exactInt 9007199254740991 = true ∧ exactInt 9007199254740992 = false := by decide +kernel

/-- Why the value guard is there and why it is strict: without it (`fastEvalOld`, the unrepaired
tree: every 64-bit integer goes through float64) the shortcut differs from the general evaluator
(1) for a value beyond 2^53, (2) for 2^53 itself against the literal 2^53+1, (3) for a uint64 that
wraps in expr-lang's `int(x)`. So `fast_agrees` is false of `fastEvalOld`. -/
theorem guard_needed :
    ¬ (∀ (c : Cmp) (row : Row) (b : Bool), fastEvalOld c row = some b → generalCmp c row = .ok b) := by
  intro h
  exact absurd (h ⟨['x'], .eq, .int 9007199254740992⟩ [(['x'], .int (.i64 9007199254740993))] true (by decide +kernel))
    (by decide +kernel)

example : fastEvalOld ⟨['x'], .eq, .int 9007199254740993⟩ [(['x'], .int (.i64 9007199254740992))] = some true ∧
    generalCmp ⟨['x'], .eq, .int 9007199254740993⟩ [(['x'], .int (.i64 9007199254740992))] = .ok false := by decide +kernel
example : fastEvalOld ⟨['x'], .gt, .int 0⟩ [(['x'], .int (.u64 9223372036854775808))] = some true ∧
    generalCmp ⟨['x'], .gt, .int 0⟩ [(['x'], .int (.u64 9223372036854775808))] = .ok false := by decide +kernel
example : fastEval ⟨['x'], .eq, .int 9007199254740993⟩ [(['x'], .int (.i64 9007199254740992))] = none := by decide +kernel

end C12

/-- tie to the source (`Facts.*` are extracted from `condition.go` by factsgen): the two regexes
the recognisers of `Model/CondShape.lean` were written for, and the split regex -/
theorem C12.facts_regexes :
    Facts.condition_fastFieldOpNum = "^\\s*([A-Za-z_][A-Za-z0-9_]*)\\s*(>=|<=|!=|<>|==|=|>|<)\\s*(-?\\d+(?:\\.\\d+)?)\\s*$" ∧
    Facts.condition_fastFieldOpStr = "^\\s*([A-Za-z_][A-Za-z0-9_]*)\\s*(>=|<=|!=|<>|==|=|>|<)\\s*'([^']*)'\\s*$" ∧
    Facts.condition_fastAndOr = "\\s*(&&|\\|\\|)\\s*" := ⟨rfl, rfl, rfl⟩

/-- tie to the source: the bound of the value guard of `toFloat64Fast` (2^53), the column names
`tryFastCompare` leaves to expr-lang, the bytes (backslash, CR) that make a quoted literal non-raw -/
theorem C12.facts_guards :
    Facts.condition_maxExactFloatInt = Cond.exactLimit ∧
    Facts.condition_isExprLiteralName_strlits.map String.toList = Cond.litNames ∧
    Facts.condition_isRawStringLiteral_strlits = ["\\\r"] := ⟨rfl, by decide +kernel, rfl⟩
