/-
The LRU field engine of C14.  While the live partitions fit the cap nothing is evicted and the engine
is a total map from keys to machine states, so every row gets the machine's value over the earlier
live rows of its own partition; above the cap, what an eviction does; which rows reach the engine.
-/
import SsqlVerif.Proofs.AnalyticMachines
set_option autoImplicit false

namespace Analytic
open Spec

section assoc
variable {K γ : Type} [DecidableEq K]

theorem eraseK_cons_eq (k : K) (p : K × γ) (l : List (K × γ)) (h : p.1 = k) :
    eraseK k (p :: l) = eraseK k l := by simp [eraseK, h]

theorem eraseK_cons_ne (k : K) (p : K × γ) (l : List (K × γ)) (h : p.1 ≠ k) :
    eraseK k (p :: l) = p :: eraseK k l := by simp [eraseK, h]

theorem lookupK_cons_eq (k : K) (p : K × γ) (l : List (K × γ)) (h : p.1 = k) :
    lookupK k (p :: l) = some p.2 := by simp [lookupK, h]

theorem lookupK_cons_ne (k : K) (p : K × γ) (l : List (K × γ)) (h : p.1 ≠ k) :
    lookupK k (p :: l) = lookupK k l := by simp [lookupK, h]

theorem lookupK_eraseK_ne (k k' : K) (l : List (K × γ)) (h : k' ≠ k) :
    lookupK k' (eraseK k l) = lookupK k' l := by
  induction l with
  | nil => rfl
  | cons p l ih =>
    by_cases hp : p.1 = k
    · have hpk' : p.1 ≠ k' := fun e => h (e ▸ hp)
      rw [eraseK_cons_eq k p l hp, lookupK_cons_ne k' p l hpk', ih]
    · rw [eraseK_cons_ne k p l hp]
      by_cases hpk' : p.1 = k'
      · rw [lookupK_cons_eq k' p _ hpk', lookupK_cons_eq k' p _ hpk']
      · rw [lookupK_cons_ne k' p _ hpk', lookupK_cons_ne k' p _ hpk', ih]

theorem lookupK_update (k k' : K) (v : γ) (l : List (K × γ)) :
    lookupK k' ((k, v) :: eraseK k l) = if k = k' then some v else lookupK k' l := by
  by_cases h : k = k'
  · rw [if_pos h, lookupK_cons_eq k' _ _ h]
  · rw [if_neg h, lookupK_cons_ne k' _ _ h, lookupK_eraseK_ne k k' l (Ne.symm h)]

theorem lookupK_none_iff (k : K) (l : List (K × γ)) : lookupK k l = none ↔ k ∉ l.map (·.1) := by
  induction l with
  | nil => exact ⟨fun _ => List.not_mem_nil, fun _ => rfl⟩
  | cons p l ih =>
    by_cases hp : p.1 = k
    · rw [lookupK_cons_eq k p l hp]
      exact ⟨fun h => (nomatch h), fun h => absurd (List.mem_cons.2 (Or.inl hp.symm)) h⟩
    · rw [lookupK_cons_ne k p l hp, ih, List.map_cons, List.mem_cons, not_or]
      exact ⟨fun h => ⟨fun e => hp e.symm, h⟩, And.right⟩

theorem keys_eraseK (k : K) (l : List (K × γ)) :
    (eraseK k l).map (·.1) = (l.map (·.1)).filter (fun x => decide (x ≠ k)) :=
  (List.filter_map (f := (·.1)) (p := fun x => decide (x ≠ k)) (l := l)).symm

theorem lookupK_eraseK_self (k : K) (l : List (K × γ)) : lookupK k (eraseK k l) = none := by
  rw [lookupK_none_iff, keys_eraseK, List.mem_filter]
  exact fun h => of_decide_eq_true h.2 rfl

theorem eraseK_of_not_mem (k : K) (l : List (K × γ)) (h : k ∉ l.map (·.1)) : eraseK k l = l :=
  List.filter_eq_self.2 fun p hp => decide_eq_true fun e => h (List.mem_map.2 ⟨p, hp, e⟩)

end assoc

section engine
variable {K σ α β : Type} [DecidableEq K]

def keysOf (e : Eng K σ β) : List K := e.lru.map (·.1)
/-- the state partition `k` owns (the initial one if it has none) -/
def absSt (init : σ) (e : Eng K σ β) (k : K) : σ := (lookupK k e.lru).getD init
def absLast (e : Eng K σ β) (k : K) : Option β := lookupK k e.last

/-- what a live row does when nothing is evicted -/
def idealLive (m : Machine σ α β) (e : Eng K σ β) (k : K) (a : α) : Eng K σ β :=
  { lru := (k, (m.step (absSt m.init e k) a).1) :: eraseK k e.lru,
    last := (k, (m.step (absSt m.init e k) a).2) :: eraseK k e.last }

theorem touch_noevict (cap : Nat) (init : σ) (e : Eng K σ β) (k : K)
    (h : k ∈ keysOf e ∨ e.lru.length < cap) :
    touch cap init e k = { lru := (k, absSt init e k) :: eraseK k e.lru, last := e.last } := by
  unfold touch absSt
  cases hl : lookupK k e.lru with
  | some s => rfl
  | none =>
    have hnm := (lookupK_none_iff k e.lru).1 hl
    have hfit : ¬ cap < ((k, init) :: e.lru).length := Nat.not_lt.2 (h.resolve_left hnm)
    show evictIfOver cap _ = _
    rw [evictIfOver, if_neg hfit, eraseK_of_not_mem k e.lru hnm]
    rfl

theorem evalLive_noevict (cap : Nat) (m : Machine σ α β) (e : Eng K σ β) (k : K) (a : α)
    (h : k ∈ keysOf e ∨ e.lru.length < cap) :
    evalLive cap m e k a = (idealLive m e k a, (m.step (absSt m.init e k) a).2) := by
  unfold evalLive
  rw [touch_noevict cap m.init e k h]
  rfl

theorem absSt_idealLive (m : Machine σ α β) (e : Eng K σ β) (k k' : K) (a : α) :
    absSt m.init (idealLive m e k a) k' = if k = k' then (m.step (absSt m.init e k) a).1 else absSt m.init e k' := by
  rw [absSt, idealLive, lookupK_update]
  split <;> rfl

theorem absLast_idealLive (m : Machine σ α β) (e : Eng K σ β) (k k' : K) (a : α) :
    absLast (idealLive m e k a) k' = if k = k' then some (m.step (absSt m.init e k) a).2 else absLast e k' :=
  lookupK_update ..

theorem idealLive_keys (m : Machine σ α β) (e : Eng K σ β) (k : K) (a : α) :
    keysOf (idealLive m e k a) = k :: (keysOf e).filter (fun x => decide (x ≠ k)) := by
  simp [keysOf, idealLive, keys_eraseK]

end engine

section main
variable {K σ α β : Type} [DecidableEq K]

theorem partRows_snoc (k : K) (hist : List (FRow K α)) (r : FRow K α) :
    partRows k (hist ++ [r]) = if r.key = k then partRows k hist ++ [r] else partRows k hist := by
  unfold partRows
  by_cases h : r.key = k <;> simp [List.filter_append, h]

omit [DecidableEq K] in
theorem liveArgs_snoc (rows : List (FRow K α)) (r : FRow K α) :
    liveArgs (rows ++ [r]) = if r.live then liveArgs rows ++ [r.arg] else liveArgs rows := by
  unfold liveArgs
  by_cases h : r.live = true <;> simp [List.filter_append, h]

/-- the value a row whose WHEN fails repeats: syntactically the else-branch of `Spec.gated` with `f := m.out` -/
def lastOut (m : Machine σ α β) (rows : List (FRow K α)) : Option β :=
  match (liveArgs rows).reverse with
  | [] => none
  | a :: before => some (m.out before.reverse a)

omit [DecidableEq K] in
theorem lastOut_snoc_live (m : Machine σ α β) (rows : List (FRow K α)) (r : FRow K α) (h : r.live = true) :
    lastOut m (rows ++ [r]) = some (m.out (liveArgs rows) r.arg) := by
  unfold lastOut
  rw [liveArgs_snoc, if_pos h]
  simp

/-- For every partition the engine holds the machine state over its live rows and its last value.
`S` stays the same along a run: at most `cap` keys, among them every key live anywhere in the run,
so an absent key of `S` finds room. -/
structure Inv (m : Machine σ α β) (S : List K) (e : Eng K σ β) (hist : List (FRow K α)) : Prop where
  nodup : (keysOf e).Nodup
  sub : ∀ k, k ∈ keysOf e → k ∈ S
  st : ∀ k, absSt m.init e k = m.run m.init (liveArgs (partRows k hist))
  last : ∀ k, absLast e k = lastOut m (partRows k hist)

theorem inv_empty (m : Machine σ α β) (S : List K) : Inv m S (Eng.empty : Eng K σ β) [] :=
  ⟨List.nodup_nil, fun _ h => absurd h List.not_mem_nil, fun _ => rfl, fun _ => rfl⟩

theorem noevict_of_inv (cap : Nat) (m : Machine σ α β) (S : List K) (hS : S.length ≤ cap)
    (e : Eng K σ β) (hist : List (FRow K α)) (hinv : Inv m S e hist) (k : K) (hk : k ∈ S) :
    k ∈ keysOf e ∨ e.lru.length < cap := by
  by_cases hmem : k ∈ keysOf e
  · exact Or.inl hmem
  · -- `k` and the keys present are distinct members of `S`
    have := List.Nodup.length_le_of_subset (List.nodup_cons.2 ⟨hmem, hinv.nodup⟩)
      (List.cons_subset.2 ⟨hk, hinv.sub⟩)
    rw [List.length_cons, keysOf, List.length_map] at this
    exact Or.inr (Nat.lt_of_lt_of_le this hS)

theorem inv_step (cap : Nat) (m : Machine σ α β) (S : List K) (hS : S.length ≤ cap)
    (e : Eng K σ β) (hist : List (FRow K α)) (r : FRow K α)
    (hinv : Inv m S e hist) (hr : r.live = true → r.key ∈ S) :
    (evalField cap m e r.key r.live r.arg).2 = gated m.out (partRows r.key hist) r ∧
    Inv m S (evalField cap m e r.key r.live r.arg).1 (hist ++ [r]) := by
  fun_cases evalField cap m e r.key r.live r.arg
  case case1 hl => -- WHEN holds
    rw [evalLive_noevict cap m e r.key r.arg (noevict_of_inv cap m S hS e hist hinv r.key (hr hl))]
    refine ⟨?_, ?_, ?_, ?_, ?_⟩
    · rw [gated, if_pos hl, hinv.st r.key]
      rfl
    · rw [idealLive_keys]
      exact List.nodup_cons.2 ⟨fun h => of_decide_eq_true (List.mem_filter.1 h).2 rfl,
        hinv.nodup.sublist List.filter_sublist⟩
    · intro k hk
      rw [idealLive_keys] at hk
      exact (List.mem_cons.1 hk).elim (· ▸ hr hl) fun hk => hinv.sub k (List.mem_filter.1 hk).1
    · intro k
      rw [absSt_idealLive, partRows_snoc]
      split
      · rw [← ‹r.key = k›, hinv.st, liveArgs_snoc, if_pos hl, Machine.run_snoc]
      · exact hinv.st k
    · intro k
      rw [absLast_idealLive, partRows_snoc]
      split
      · rw [← ‹r.key = k›, lastOut_snoc_live m _ r hl, hinv.st]
        rfl
      · exact hinv.last k
  case case2 hl => -- WHEN fails
    have hargs (k : K) : liveArgs (partRows k (hist ++ [r])) = liveArgs (partRows k hist) := by
      rw [partRows_snoc]
      split
      · rw [liveArgs_snoc, if_neg hl]
      · rfl
    rw [gated, if_neg hl]
    refine ⟨hinv.last r.key, hinv.nodup, hinv.sub, fun k => ?_, fun k => ?_⟩
    · rw [hinv.st, hargs]
    · rw [hinv.last, lastOut, lastOut, hargs]

theorem engRun_specFrom_inv (cap : Nat) (m : Machine σ α β) (S : List K) (hS : S.length ≤ cap)
    (rows : List (FRow K α)) (e : Eng K σ β) (hist : List (FRow K α))
    (hinv : Inv m S e hist) (hk : ∀ r ∈ rows, r.live = true → r.key ∈ S) :
    engRun cap m e rows = fieldSpecFrom m.out hist rows ∧
    Inv m S (engState cap m e rows) (hist ++ rows) := by
  induction rows generalizing e hist with
  | nil => exact ⟨rfl, (List.append_nil hist).symm ▸ hinv⟩
  | cons r rs ih =>
    obtain ⟨hout, hinv'⟩ := inv_step cap m S hS e hist r hinv (hk r List.mem_cons_self)
    obtain ⟨hrest, hfin⟩ := ih _ (hist ++ [r]) hinv' (fun x hx => hk x (List.mem_cons_of_mem r hx))
    rw [List.append_assoc] at hfin
    exact ⟨show _ :: _ = _ :: _ from hout ▸ hrest ▸ rfl, hfin⟩

theorem mem_distinct (k : K) (l : List K) : k ∈ distinct l ↔ k ∈ l := by
  induction l with
  | nil => exact Iff.rfl
  | cons x xs ih =>
    unfold distinct
    split
    · rw [ih, List.mem_cons]
      exact ⟨Or.inr, fun h => h.elim (· ▸ ‹x ∈ xs›) id⟩
    · rw [List.mem_cons, List.mem_cons, ih]

theorem nodup_distinct (l : List K) : (distinct l).Nodup := by
  induction l with
  | nil => exact List.nodup_nil
  | cons x xs ih =>
    unfold distinct
    split
    · exact ih
    · exact List.nodup_cons.2 ⟨fun h => ‹x ∉ xs› ((mem_distinct x xs).1 h), ih⟩

theorem engRun_fieldSpec_inv (cap : Nat) (m : Machine σ α β) (rows : List (FRow K α))
    (hcap : withinCap cap rows = true) :
    engRun cap m (Eng.empty : Eng K σ β) rows = fieldSpec m.out rows ∧
    Inv m (distinct (liveKeys rows)) (engState cap m (Eng.empty : Eng K σ β) rows) rows :=
  engRun_specFrom_inv cap m _ (of_decide_eq_true hcap) rows Eng.empty [] (inv_empty m _) fun r hr hl =>
    (mem_distinct _ _).2 (List.mem_map.2 ⟨r, List.mem_filter.2 ⟨hr, hl⟩, rfl⟩)

end main

section isolation
variable {K σ α β : Type} [DecidableEq K]

/-- the outputs that belong to the rows of partition `k` -/
def restrict (k : K) (rows : List (FRow K α)) (outs : List (Option β)) : List (Option β) :=
  ((rows.zip outs).filter (fun p => decide (p.1.key = k))).map (·.2)

theorem partRows_idem (k : K) (rows : List (FRow K α)) : partRows k (partRows k rows) = partRows k rows := by
  unfold partRows
  rw [List.filter_filter]
  simp only [Bool.and_self]

theorem partRows_cons (k : K) (r : FRow K α) (rows : List (FRow K α)) :
    partRows k (r :: rows) = if r.key = k then r :: partRows k rows else partRows k rows := by
  unfold partRows
  rw [List.filter_cons]
  simp only [decide_eq_true_eq]

theorem restrict_cons (k : K) (r : FRow K α) (rows : List (FRow K α)) (o : Option β) (outs : List (Option β)) :
    restrict k (r :: rows) (o :: outs) = if r.key = k then o :: restrict k rows outs else restrict k rows outs := by
  unfold restrict
  rw [List.zip_cons_cons, List.filter_cons]
  simp only [decide_eq_true_eq]
  split <;> rfl

theorem fieldSpecFrom_restrict (f : List α → α → β) (k : K) (rows hist : List (FRow K α)) :
    restrict k rows (fieldSpecFrom f hist rows) = fieldSpecFrom f (partRows k hist) (partRows k rows) := by
  induction rows generalizing hist with
  | nil => rfl
  | cons r rs ih =>
    rw [fieldSpecFrom, restrict_cons, partRows_cons, ih, partRows_snoc]
    split
    · rw [fieldSpecFrom, ‹r.key = k›, partRows_idem]
    · rfl

theorem withinCap_partRows (cap : Nat) (k : K) (rows : List (FRow K α)) (h : withinCap cap rows = true) :
    withinCap cap (partRows k rows) = true := by
  have := List.Nodup.length_le_of_subset (nodup_distinct (liveKeys (partRows k rows)))
    (l₂ := distinct (liveKeys rows)) fun x hx => (mem_distinct x _).2
      (((List.filter_sublist.filter _).map _).subset ((mem_distinct x _).1 hx))
  exact decide_eq_true (Nat.le_trans this (of_decide_eq_true h))

theorem engRun_isolation (cap : Nat) (m : Machine σ α β) (rows : List (FRow K α))
    (hcap : withinCap cap rows = true) (k : K) :
    restrict k rows (engRun cap m (Eng.empty : Eng K σ β) rows) =
      engRun cap m (Eng.empty : Eng K σ β) (partRows k rows) := by
  rw [(engRun_fieldSpec_inv cap m rows hcap).1,
    (engRun_fieldSpec_inv cap m (partRows k rows) (withinCap_partRows cap k rows hcap)).1]
  exact fieldSpecFrom_restrict m.out k rows []

end isolation

section eviction
variable {K σ α β : Type} [DecidableEq K]

theorem touch_evict (cap : Nat) (init : σ) (front : List (K × σ)) (kb : K) (sb : σ) (last : List (K × β)) (k : K)
    (hfull : (front ++ [(kb, sb)]).length = cap) (hnew : lookupK k (front ++ [(kb, sb)]) = none) :
    touch cap init ⟨front ++ [(kb, sb)], last⟩ k = ⟨(k, init) :: front, eraseK kb last⟩ := by
  rw [touch, hnew, evictIfOver, if_pos (hfull ▸ Nat.lt_succ_self _), evict, ← List.cons_append,
    List.getLast?_concat, List.dropLast_concat]

/-- a live row of a new key at a full engine resets the back key (a row whose WHEN fails never evicts) -/
theorem evict_resets (cap : Nat) (m : Machine σ α β) (e : Eng K σ β) (k kb : K) (sb : σ) (a : α)
    (hnd : (keysOf e).Nodup) (hfull : e.lru.length = cap)
    (hnew : k ∉ keysOf e) (hback : e.lru.getLast? = some (kb, sb)) :
    absSt m.init (evalLive cap m e k a).1 kb = m.init ∧ absLast (evalLive cap m e k a).1 kb = none := by
  obtain ⟨lru, last⟩ := e
  obtain ⟨front, rfl⟩ := List.getLast?_eq_some_iff.1 hback
  rw [evalLive, touch_evict cap m.init front kb sb last k hfull ((lookupK_none_iff k _).2 hnew)]
  rw [keysOf, List.map_append] at hnd hnew
  -- `kb` occurred once, at the back, and is not the new key
  have hne : k ≠ kb := fun h => hnew (List.mem_append_right _ (List.mem_singleton.2 h))
  have hnot : lookupK kb front = none := (lookupK_none_iff kb front).2 fun hmem =>
    (List.nodup_append.1 hnd).2.2 kb hmem kb (List.mem_singleton.2 rfl) rfl
  constructor
  · rw [absSt, setLast, setHead, lookupK_cons_ne kb _ _ hne, hnot]
    rfl
  · rw [absLast, setLast, lookupK_cons_ne kb _ _ hne, setHead, lookupK_eraseK_ne k kb _ hne.symm,
      lookupK_eraseK_self]

end eviction

section whereOrder
variable {S R O : Type}

theorem runRows_free (plain : R → Bool) (post : R → O → Bool) (A : Machine S R O) (rows : List R) (s : S) :
    (runRows false plain post A s rows).filterMap id = A.outs s (rows.filter plain) ∧
    (runRows false plain post A s rows).map Option.isSome = rows.map plain := by
  induction rows generalizing s with
  | nil => exact ⟨rfl, rfl⟩
  | cons r rs ih => cases hp : plain r <;> simp [runRows, stepRow, hp, Machine.outs, ih]

theorem runRows_uses (plain : R → Bool) (post : R → O → Bool) (A : Machine S R O) (rows : List R) (s : S) :
    runRows true plain post A s rows =
      (rows.zip (A.outs s rows)).map (fun p => if post p.1 p.2 then some p.2 else none) := by
  induction rows generalizing s with
  | nil => rfl
  | cons r rs ih => simp [runRows, stepRow, Machine.outs, ih]

end whereOrder
end Analytic
