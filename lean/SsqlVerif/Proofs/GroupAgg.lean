/-
C03, the `GroupAggregator` model: after any sequence of `Add`s the table holds, per group key in
first-appearance order, the accumulators of that group's rows; hence `GetResults` is `AggSpec.batchResults`.
-/
import SsqlVerif.Proofs.AggRun
set_option autoImplicit false

namespace GroupAggProofs
open Agg GroupAgg AggSpec AggProofs

variable {ν : Type} [NumOps ν]

/-- accumulator of one field after the rows `rs` of its group -/
def fieldRun (e : Env ν) (f : Field ν) (rs : List (Row ν)) : St ν :=
  rs.foldl (fun st r => stepField e r f st) (St.new f.kind)

theorem allowsNull_eq (k : Kind) : allowsNull k = (decide (k = .firstValue) || decide (k = .lastValue)) := by
  cases k <;> rfl

omit [NumOps ν] in
theorem takesPart_eq (k : Kind) (v : Val ν) : takesPart k v = (!v.isNull || allowsNull k) := by
  rw [allowsNull_eq, ← Bool.or_assoc]
  rfl

omit [NumOps ν] in
theorem nullGate_eq (k : Kind) (v : Val ν) : nullGate k v = (some v).filter (takesPart k) := by
  rw [Option.filter_some, takesPart_eq, nullGate]
  cases v.isNull <;> cases allowsNull k <;> rfl

/-- two notions (whose bare-column argument `Add` converts; which aggregates ignore the arrival order)
that hold of the same kinds -/
theorem isNumeric_eq : isNumeric = orderInsensitive := by
  funext k
  cases k <;> rfl

section field
variable (e : Env ν) (f : Field ν)

theorem fieldRun_eq (rs : List (Row ν)) :
    fieldRun e f rs = (rs.filterMap (dispatch e f)).foldl (St.add e) (St.new f.kind) :=
  foldl_optStep (dispatch e f) (St.add e) _
    (fun st r => by
      unfold stepField
      cases dispatch e f r <;> rfl) _ rs

/-- what `Add` does after the declarative "takes part" filter: bare columns of numeric
aggregates are converted with `cast.ToFloat64E` -/
def coerceCol (v : Val ν) : Option (Val ν) :=
  match f.input with
  | .col _ => coerce e f.kind v
  | _ => some v

theorem dispatch_eq (r : Row ν) :
    dispatch e f r = ((argOf f r).filter (takesPart f.kind)).bind (coerceCol e f) := by
  unfold dispatch argOf coerceCol
  cases f.input with
  | star => rfl
  | col name =>
    show colInput e f.kind (lookup name r)
      = ((lookup name r).filter (takesPart f.kind)).bind (coerce e f.kind)
    cases lookup name r with
    | none => rfl
    | some v => exact congrArg (·.bind (coerce e f.kind)) (nullGate_eq f.kind v)
  | expr ev =>
    show exprInput f.kind (ev r) = ((ev r).filter (takesPart f.kind)).bind some
    cases ev r with
    | none => rfl
    | some v => exact (nullGate_eq f.kind v).trans (Option.bind_fun_some _).symm

theorem nums_coerced (l : List (Val ν)) :
    nums e (l.filterMap fun v => (toFloat e v).map Val.flt) = nums e l := by
  unfold nums
  rw [List.filterMap_filterMap]
  congr 1
  funext v
  cases toFloat e v <;> rfl

theorem coerce_fun (k : Kind) :
    coerce e k = if k = .count then some else if isNumeric k then (fun v => (toFloat e v).map Val.flt) else some := by
  funext v
  fun_cases coerce e k v
  · next h1 => rw [if_pos h1]  -- count
  · next h1 h2 => rw [if_neg h1, if_pos h2]  -- numeric
  · next h1 h2 => rw [if_neg h1, if_neg h2]

theorem value_coerce (prm : Param ν) (k : Kind) (l : List (Val ν)) :
    value e prm k (l.filterMap (coerce e k)) = value e prm k l := by
  rw [coerce_fun]
  split
  · rw [List.filterMap_some]
  · next hc =>
    split
    · next hn =>
      exact value_eq_of_nums_eq e prm (isNumeric_eq ▸ hn) (nums_coerced e l) (fun h => absurd h hc)
    · rw [List.filterMap_some]

theorem value_coerceCol (l : List (Val ν)) :
    value e f.prm f.kind (l.filterMap (coerceCol e f)) = value e f.prm f.kind l := by
  unfold coerceCol
  cases f.input with
  | col name => exact value_coerce e f.prm f.kind l
  | _ => rw [List.filterMap_some]

/-- where the model's per-row `dispatch` meets the specification: it is the specification's filter (`inputs`)
followed by `coerceCol`, the conversion being applied only to values that take part -/
theorem fieldRun_result (rs : List (Row ν)) :
    (fieldRun e f rs).result e f.prm = run e f.prm f.kind ((inputs f rs).filterMap (coerceCol e f)) := by
  rw [fieldRun_eq, inputs, List.filterMap_filterMap, ← funext (dispatch_eq e f)]
  rfl

end field

section group
variable (e : Env ν) (fields : List (Field ν))

theorem stepGroup_map (r : Row ν) (g : Field ν → St ν) :
    stepGroup e r fields (fields.map g) = fields.map (fun f => stepField e r f (g f)) := by
  induction fields with
  | nil => rfl
  | cons f fs ih => exact congrArg (_ :: ·) ih

theorem foldl_stepGroup_map (rs : List (Row ν)) (g : Field ν → St ν) :
    rs.foldl (fun sts r => stepGroup e r fields sts) (fields.map g)
      = fields.map (fun f => rs.foldl (fun st r => stepField e r f st) (g f)) := by
  induction rs generalizing g with
  | nil => rfl
  | cons r rs ih =>
    rw [List.foldl_cons, stepGroup_map]
    exact ih _

/-- accumulators of one group after its rows `rs` -/
def statesFor (rs : List (Row ν)) : List (St ν) :=
  rs.foldl (fun sts r => stepGroup e r fields sts) (newGroup fields)

theorem statesFor_eq (rs : List (Row ν)) :
    statesFor e fields rs = fields.map (fun f => fieldRun e f rs) :=
  foldl_stepGroup_map e fields rs _

theorem resultsOf_map (h : Field ν → St ν) :
    resultsOf e fields (fields.map h) = fields.map (fun f => (f.alias, (h f).result e f.prm)) := by
  induction fields with
  | nil => rfl
  | cons f fs ih => exact congrArg (_ :: ·) ih

end group

variable {κ : Type} [DecidableEq κ]

omit [NumOps ν] in
theorem upsert_map_absent (k : κ) (f : List (St ν) → List (St ν)) (init : List (St ν))
    (ks : List κ) (G : κ → List (St ν)) (h : k ∉ ks) :
    upsert k f init (ks.map fun k' => (k', G k')) = (ks.map fun k' => (k', G k')) ++ [(k, f init)] := by
  induction ks with
  | nil => rfl
  | cons a ks ih =>
    have ha : ¬ a = k := fun h' => h (h' ▸ List.mem_cons_self)
    rw [List.map_cons, upsert, if_neg ha, ih (fun h' => h (List.mem_cons_of_mem _ h'))]
    rfl

omit [NumOps ν] in
theorem upsert_map_present (k : κ) (f : List (St ν) → List (St ν)) (init : List (St ν))
    (ks : List κ) (G : κ → List (St ν)) (h : k ∈ ks) (hn : ks.Nodup) :
    upsert k f init (ks.map fun k' => (k', G k'))
      = ks.map fun k' => (k', if k' = k then f (G k') else G k') := by
  induction ks with
  | nil => cases h
  | cons a ks ih =>
    obtain ⟨ha, hn'⟩ := List.nodup_cons.mp hn
    by_cases hak : a = k
    · rw [List.map_cons, List.map_cons, upsert, if_pos hak, if_pos hak]
      refine congrArg (_ :: ·) (List.map_congr_left fun b hb => ?_)
      rw [if_neg fun hbk : b = k => ha (hak.trans hbk.symm ▸ hb)]
    · rw [List.map_cons, List.map_cons, upsert, if_neg hak, if_neg hak,
        ih ((List.mem_cons.mp h).resolve_left (Ne.symm hak)) hn']

section table
variable (c : Cfg ν κ) (rows : List (Row ν))

/-- accumulators of group `k` after the rows `rows` (of all groups) -/
def groupStates (k : κ) : List (St ν) :=
  statesFor c.env c.fields (rows.filter fun r => decide (c.keyOf r = k))

theorem groupStates_snoc (r : Row ν) (k : κ) :
    groupStates c (rows ++ [r]) k
      = if k = c.keyOf r then stepGroup c.env r c.fields (groupStates c rows k) else groupStates c rows k := by
  unfold groupStates
  rw [List.filter_append, List.filter_cons, List.filter_nil]
  by_cases h : k = c.keyOf r
  · rw [if_pos h, if_pos (decide_eq_true h.symm)]
    exact List.foldl_append
  · rw [if_neg h, if_neg fun hd => h (of_decide_eq_true hd).symm, List.append_nil]

theorem groupStates_absent (k : κ) (h : k ∉ rows.map c.keyOf) :
    groupStates c rows k = newGroup c.fields := by
  unfold groupStates
  rw [List.filter_eq_nil_iff.mpr fun r hr hk => h (List.mem_map.mpr ⟨r, hr, of_decide_eq_true hk⟩)]
  rfl

/-- **state invariant**: after `Add`ing `rows` to an empty table it holds, for every key in
first-appearance order, the accumulators of that key's rows -/
theorem state_after :
    rows.foldl (GroupAgg.add c) [] =
      (distinct id (rows.map c.keyOf)).map fun k => (k, groupStates c rows k) := by
  -- from the end: the last row finds its key in the table and `upsert` steps that key's accumulators
  -- only, or it does not and a fresh group, stepped once, is appended
  induction rows using List.rev_ind with
  | h0 => rfl
  | hs rows r ih =>
    rw [List.foldl_append, ih]
    simp only [List.foldl_cons, List.foldl_nil, GroupAgg.add, List.map_append, List.map_cons, List.map_nil,
      distinct_id_snoc]
    split
    · next h =>
      rw [upsert_map_present _ _ _ _ _ ((mem_distinct_id _ _).mpr h) (nodup_distinct_id _)]
      exact List.map_congr_left fun k _ => congrArg (Prod.mk k) (groupStates_snoc c rows r k).symm
    · next h =>
      have h' := mt (mem_distinct_id _ _).mp h
      rw [upsert_map_absent _ _ _ _ _ h', List.map_append, List.map_cons, List.map_nil, groupStates_snoc,
        if_pos rfl, groupStates_absent c rows _ h]
      refine congrArg (· ++ _) (List.map_congr_left fun k hk => ?_)
      rw [groupStates_snoc, if_neg fun hr : k = c.keyOf r => h' (hr ▸ hk)]

theorem getResults_of_runs
    (h : ∀ f ∈ c.fields, ∀ l, run c.env f.prm f.kind l = value c.env f.prm f.kind l) :
    getResults c (rows.foldl (GroupAgg.add c) []) = batchResults c rows := by
  rw [state_after, getResults, batchResults, List.map_map]
  refine List.map_congr_left fun k _ => congrArg (Prod.mk k) ?_
  rw [groupStates, statesFor_eq, resultsOf_map]
  refine List.map_congr_left fun f hf => congrArg (Prod.mk f.alias) ?_
  rw [fieldRun_result, h f hf, value_coerceCol]

end table

theorem mem_add_of_key_ne (c : Cfg ν κ) (g : State ν κ) (r : Row ν) (k : κ) (h : ¬ c.keyOf r = k)
    (sts : List (St ν)) : (k, sts) ∈ GroupAgg.add c g r ↔ (k, sts) ∈ g := by
  unfold GroupAgg.add
  fun_induction upsert (c.keyOf r) (stepGroup c.env r c.fields) (newGroup c.fields) g with
  | case1 => exact ⟨fun h' => absurd (Prod.mk.inj (List.mem_singleton.mp h')).1.symm h, nofun⟩
  | case2 s rest =>  -- key found
    -- the entry that changes has key `c.keyOf r`, so it is not `(k, sts)` before or after
    have hne : ∀ s, ¬ (k, sts) = (c.keyOf r, s) := fun s he => h (Prod.mk.inj he).1.symm
    rw [List.mem_cons, List.mem_cons]
    exact or_congr (iff_of_false (hne _) (hne _)) Iff.rfl
  | case3 k' s rest hk ih => rw [List.mem_cons, List.mem_cons, ih]

/-- `Reset` after every batch: only the first batch sees the state the instance starts in -/
theorem runBatches_cons (c : Cfg ν κ) (g : State ν κ) (b : List (Row ν)) (bs : List (List (Row ν))) :
    runBatches c g (b :: bs)
      = getResults c (b.foldl (GroupAgg.add c) g) :: bs.map fun b' => getResults c (b'.foldl (GroupAgg.add c) []) := by
  induction bs generalizing g b with
  | nil => rfl
  | cons b' bs ih => exact congrArg (_ :: ·) (ih [] b')

end GroupAggProofs
