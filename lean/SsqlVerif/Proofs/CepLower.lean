/-
`lower` (the parser's pattern tree to the core tree; mirrors `compileNode`'s folds and
`compilePermute`): what it returns when it succeeds, that the result has consistent quantifier
bounds, and that it keeps the language the user reads off the tree (`Spec.LangN`).
-/
import SsqlVerif.Proofs.CepNfa
set_option autoImplicit false

namespace Cep
open Spec

theorem except_map_ok {ε α β : Type} {f : α → β} {x : Except ε α} {b : β} (h : x.map f = .ok b) :
    ∃ a, x = .ok a ∧ b = f a := by
  cases x with
  | error e => cases h
  | ok a =>
    cases h
    exact ⟨a, rfl, rfl⟩

theorem lower_rep_ok {c : PNode} {mn mx : Int} {g : Bool} {p : Pat} (h : lower (.rep c mn mx g) = .ok p) :
    0 ≤ mn ∧ ((mn = 0 ∧ mx = 0 ∧ p = .empty) ∨ ∃ q, lower c = .ok q ∧
      ((mx < 0 ∧ p = .rep q mn.toNat none) ∨ (mn ≤ mx ∧ p = .rep q mn.toNat (some mx.toNat)))) := by
  rw [lower] at h
  by_cases h1 : mn < 0
  · rw [if_pos h1] at h
    cases h
  rw [if_neg h1] at h
  refine ⟨Int.not_lt.1 h1, ?_⟩
  by_cases h2 : mn = 0 ∧ mx = 0
  · rw [if_pos h2] at h
    cases h
    exact .inl ⟨h2.1, h2.2, rfl⟩
  rw [if_neg h2] at h
  cases hq : lower c with
  | error e =>
    rw [hq] at h
    cases h
  | ok q =>
    rw [hq] at h
    dsimp only at h
    refine .inr ⟨q, rfl, ?_⟩
    by_cases h3 : mx < 0
    · rw [if_pos h3] at h
      cases h
      exact .inl ⟨h3, rfl⟩
    rw [if_neg h3] at h
    by_cases h4 : mx < mn
    · rw [if_pos h4] at h
      cases h
    rw [if_neg h4] at h
    cases h
    exact .inr ⟨Int.not_lt.1 h4, rfl⟩

theorem lower_permute_ok {cs : List PNode} {p : Pat} (h : lower (.permute cs) = .ok p) :
    ∃ ps, lowerList cs = .ok ps ∧ p = permAlt ps := by
  rw [lower] at h
  by_cases h1 : cs.length > 6
  · rw [if_pos h1] at h
    cases h
  · rw [if_neg h1] at h
    exact except_map_ok h

theorem lowerList_cons_ok {c : PNode} {cs : List PNode} {ps : List Pat} (h : lowerList (c :: cs) = .ok ps) :
    ∃ q qs, lower c = .ok q ∧ lowerList cs = .ok qs ∧ ps = q :: qs := by
  rw [lowerList] at h
  cases hq : lower c with
  | error e =>
    rw [hq] at h
    cases h
  | ok q =>
    cases hqs : lowerList cs with
    | error e =>
      rw [hq, hqs] at h
      cases h
    | ok qs =>
      rw [hq, hqs] at h
      cases h
      exact ⟨q, qs, rfl, rfl, rfl⟩

theorem seqOf_valid : ∀ (ps : List Pat), (∀ p ∈ ps, p.valid) → (seqOf ps).valid
  | [], _ => trivial
  | [p], h => h p (List.mem_singleton.2 rfl)
  | p :: q :: ps, h => by
    simp only [seqOf, Pat.valid]
    exact ⟨h p (List.mem_cons_self ..), seqOf_valid (q :: ps) (fun x hx => h x (List.mem_cons_of_mem _ hx))⟩

theorem altFold_valid : ∀ (ps : List Pat) (acc : Pat), acc.valid → (∀ p ∈ ps, p.valid) → (altFold acc ps).valid
  | [], acc, ha, _ => ha
  | p :: ps, acc, ha, h => by
    simp only [altFold]
    exact altFold_valid ps _ ⟨ha, h p (List.mem_cons_self ..)⟩ (fun x hx => h x (List.mem_cons_of_mem _ hx))

theorem altOf_valid : ∀ (ps : List Pat), (∀ p ∈ ps, p.valid) → (altOf ps).valid
  | [], _ => trivial
  | p :: ps, h => altFold_valid ps p (h p (List.mem_cons_self ..)) (fun x hx => h x (List.mem_cons_of_mem _ hx))

theorem permAlt_valid (ps : List Pat) (h : ∀ p ∈ ps, p.valid) : (permAlt ps).valid := by
  unfold permAlt
  apply altOf_valid
  intro q hq
  obtain ⟨perm, _, rfl⟩ := List.mem_map.1 hq
  apply seqOf_valid
  intro x hx
  obtain ⟨i, _, rfl⟩ := List.mem_map.1 hx
  simp only [List.getD_eq_getElem?_getD]
  cases hget : ps[i]? with
  | none => simp [Pat.valid]
  | some y => simpa using h y (List.mem_of_getElem? hget)

mutual
theorem lower_valid : ∀ (n : PNode) (p : Pat), lower n = .ok p → p.valid
  | .lit a, p, h => by
    cases h
    trivial
  | .seq cs, p, h => by
    obtain ⟨ps, hps, rfl⟩ := except_map_ok (f := seqOf) h
    exact seqOf_valid ps (lowerList_valid cs ps hps)
  | .alt cs, p, h => by
    obtain ⟨ps, hps, rfl⟩ := except_map_ok (f := altOf) h
    exact altOf_valid ps (lowerList_valid cs ps hps)
  | .group cs, p, h => lowerHead_valid cs p h
  | .rep c mn mx g, p, h => by
    obtain ⟨h0, ⟨-, -, rfl⟩ | ⟨q, hq, ⟨-, rfl⟩ | ⟨hle, rfl⟩⟩⟩ := lower_rep_ok h
    · trivial
    · exact lower_valid c q hq
    · exact ⟨lower_valid c q hq, Int.toNat_le_toNat hle⟩
  | .permute cs, p, h => by
    obtain ⟨ps, hps, rfl⟩ := lower_permute_ok h
    exact permAlt_valid ps (lowerList_valid cs ps hps)
  | .exclusion, p, h => by cases h
theorem lowerList_valid : ∀ (cs : List PNode) (ps : List Pat), lowerList cs = .ok ps → ∀ p ∈ ps, p.valid
  | [], ps, h => by
    cases h
    nofun
  | c :: cs, ps, h => by
    obtain ⟨q, qs, hq, hqs, rfl⟩ := lowerList_cons_ok h
    intro p hp
    rcases List.mem_cons.1 hp with rfl | hp
    · exact lower_valid c _ hq
    · exact lowerList_valid cs qs hqs p hp
theorem lowerHead_valid : ∀ (cs : List PNode) (p : Pat), lowerHead cs = .ok p → p.valid
  | [], p, h => by
    cases h
    trivial
  | c :: _, p, h => lower_valid c p h
end

theorem insertAt_perm (x : Nat) (s : List Nat) (i : Nat) : (insertAt x s i).Perm (x :: s) := by
  unfold insertAt
  have h : (s.take i ++ x :: s.drop i).Perm (x :: (s.take i ++ s.drop i)) := List.perm_middle
  rw [List.take_append_drop] at h
  exact h

theorem mem_permutations (n : Nat) (σ : List Nat) : σ ∈ permutations n ↔ σ.Perm (List.range n) := by
  induction n generalizing σ with
  | zero => exact List.mem_singleton.trans ⟨fun h => h ▸ .refl _, List.Perm.eq_nil⟩
  | succ n ih =>
    have hr : (List.range (n + 1)).Perm (n :: List.range n) := by
      rw [List.range_succ]
      exact List.perm_append_singleton ..
    simp only [permutations, List.mem_flatMap, List.mem_map, List.mem_range]
    constructor
    · rintro ⟨s, hs, i, _, rfl⟩
      exact (insertAt_perm n s i).trans ((((ih s).1 hs).cons n).trans hr.symm)
    · intro h
      -- take `n` out of `σ`: the rest is a permutation of `range n`, and where `n` stood is where to insert it
      obtain ⟨l1, l2, rfl⟩ := List.append_of_mem (h.symm.subset (List.mem_range.2 (Nat.lt_succ_self n)))
      have h2 : (l1 ++ l2).Perm (List.range n) := (List.perm_middle.symm.trans (h.trans hr)).cons_inv
      have hlt : l1.length < (l1 ++ l2).length + 1 := by
        simp
        omega
      exact ⟨l1 ++ l2, (ih _).2 h2, l1.length, hlt, by simp [insertAt]⟩

theorem permutations_ne_nil (n : Nat) : permutations n ≠ [] := by
  intro h
  have := (mem_permutations n (List.range n)).2 (List.Perm.refl _)
  rw [h] at this
  cases this

theorem lang_seqOf : ∀ (ps : List Pat) (w : List Sym), Lang (seqOf ps) w ↔ ConcatL (ps.map Lang) w
  | [], _ => Iff.rfl
  | [p], w => by
    refine ⟨fun h => ⟨w, [], (List.append_nil w).symm, h, rfl⟩, ?_⟩
    rintro ⟨u, v, rfl, hu, rfl⟩
    rwa [List.append_nil]
  | p :: q :: ps, w =>
    exists_congr fun _ => exists_congr fun v => and_congr_right fun _ => and_congr_right fun _ =>
      lang_seqOf (q :: ps) v

theorem lang_altFold : ∀ (ps : List Pat) (acc : Pat) (w : List Sym),
    Lang (altFold acc ps) w ↔ Lang acc w ∨ AnyL (ps.map Lang) w
  | [], acc, w => (or_iff_left (a := Lang acc w) (b := False) id).symm
  | p :: ps, acc, w => (lang_altFold ps (.alt acc p) w).trans or_assoc

theorem lang_altOf : ∀ (ps : List Pat) (w : List Sym),
    Lang (altOf ps) w ↔ (ps = [] ∧ w = []) ∨ AnyL (ps.map Lang) w
  | [], w => by simp [altOf, Lang, AnyL]
  | p :: ps, w => by simpa [altOf, AnyL] using lang_altFold ps p w

theorem anyL_map {α : Type} (f : α → List Sym → Prop) : ∀ (l : List α) (w : List Sym),
    AnyL (l.map f) w ↔ ∃ x ∈ l, f x w
  | [], w => by simp [AnyL]
  | x :: xs, w => by simp [AnyL, anyL_map f xs w]

theorem lang_permAlt (ps : List Pat) (w : List Sym) :
    Lang (permAlt ps) w ↔ ∃ σ : List Nat, σ.Perm (List.range ps.length) ∧
      ConcatL (σ.map fun i => Lang (ps.getD i .empty)) w := by
  unfold permAlt
  rw [lang_altOf, List.map_map, anyL_map,
    or_iff_right fun h => permutations_ne_nil _ (List.map_eq_nil_iff.1 h.1)]
  refine exists_congr fun σ => and_congr (mem_permutations _ σ) ?_
  rw [Function.comp_apply, lang_seqOf, List.map_map]
  rfl

/-- two lists of languages, pointwise equivalent (`List.Forall₂` of `∀ w, L w ↔ M w`) -/
inductive RelL : List (List Sym → Prop) → List (List Sym → Prop) → Prop
  | nil : RelL [] []
  | cons {L M : List Sym → Prop} {Ls Ms : List (List Sym → Prop)} : (∀ w, L w ↔ M w) → RelL Ls Ms → RelL (L :: Ls) (M :: Ms)

theorem RelL.concat {Ls Ms : List (List Sym → Prop)} (h : RelL Ls Ms) : ∀ w, ConcatL Ls w ↔ ConcatL Ms w := by
  induction h with
  | nil => exact fun w => Iff.rfl
  | cons hL _ ih =>
    exact fun w => exists_congr fun u => exists_congr fun v => and_congr_right fun _ => and_congr (hL u) (ih v)

theorem RelL.any {Ls Ms : List (List Sym → Prop)} (h : RelL Ls Ms) : ∀ w, AnyL Ls w ↔ AnyL Ms w := by
  induction h with
  | nil => exact fun w => Iff.rfl
  | cons hL _ ih => exact fun w => or_congr (hL w) (ih w)

theorem RelL.head {Ls Ms : List (List Sym → Prop)} (h : RelL Ls Ms) : ∀ w, HeadL Ls w ↔ HeadL Ms w := by
  cases h with
  | nil => exact fun w => Iff.rfl
  | cons hL _ => exact hL

theorem RelL.length {Ls Ms : List (List Sym → Prop)} (h : RelL Ls Ms) : Ls.length = Ms.length := by
  induction h with
  | nil => rfl
  | cons _ _ ih => simp [ih]

theorem RelL.getD {Ls Ms : List (List Sym → Prop)} (h : RelL Ls Ms) (d : List Sym → Prop) :
    ∀ (i : Nat) (w : List Sym), Ls.getD i d w ↔ Ms.getD i d w := by
  induction h with
  | nil => exact fun i w => Iff.rfl
  | cons hL _ ih =>
    intro i w
    cases i with
    | zero => exact hL w
    | succ i => exact ih i w

theorem relL_map_perm {Ls Ms : List (List Sym → Prop)} (h : RelL Ls Ms) (d : List Sym → Prop) (σ : List Nat) :
    RelL (σ.map fun i => Ls.getD i d) (σ.map fun i => Ms.getD i d) := by
  induction σ with
  | nil => exact RelL.nil
  | cons i σ ih => exact RelL.cons (h.getD d i) ih

theorem relL_map_lang_getD (ps : List Pat) (Ms : List (List Sym → Prop)) (h : RelL (ps.map Lang) Ms) (σ : List Nat) :
    RelL (σ.map fun i => Lang (ps.getD i .empty)) (σ.map fun i => Ms.getD i (fun w => w = [])) := by
  have := relL_map_perm h (Lang .empty) σ
  simp only [List.getD_eq_getElem?_getD, List.getElem?_map, Option.getD_map] at this
  simp only [List.getD_eq_getElem?_getD]
  exact this

theorem langNs_length : ∀ (cs : List PNode), (LangNs cs).length = cs.length
  | [] => rfl
  | c :: cs => by simp [LangNs, langNs_length cs]

theorem length_of_relL_langNs {cs : List PNode} {ps : List Pat} (h : RelL (ps.map Lang) (LangNs cs)) :
    ps.length = cs.length := by
  simpa [langNs_length] using h.length

mutual
theorem lower_lang : ∀ (n : PNode) (p : Pat), lower n = .ok p → ∀ w, Lang p w ↔ LangN n w
  | .lit a, p, h => by
    cases h
    exact fun w => Iff.rfl
  | .seq cs, p, h => by
    obtain ⟨ps, hps, rfl⟩ := except_map_ok (f := seqOf) h
    exact fun w => (lang_seqOf ps w).trans ((lowerList_lang cs ps hps).concat w)
  | .alt cs, p, h => by
    obtain ⟨ps, hps, rfl⟩ := except_map_ok (f := altOf) h
    have hr := lowerList_lang cs ps hps
    intro w
    rw [lang_altOf, LangN, hr.any w, ← List.length_eq_zero_iff, length_of_relL_langNs hr, List.length_eq_zero_iff]
  | .group cs, p, h => lowerHead_lang cs p h
  | .rep c mn mx g, p, h => by
    obtain ⟨h0, ⟨rfl, rfl, rfl⟩ | ⟨q, hq, ⟨hmx, rfl⟩ | ⟨hle, rfl⟩⟩⟩ := lower_rep_ok h <;> intro w
    · constructor
      · rintro rfl
        exact ⟨0, Int.le_refl _, fun _ => Int.le_refl _, rfl⟩
      · rintro ⟨n, _, hn, hp⟩
        obtain rfl : n = 0 := Nat.le_zero.1 (Int.ofNat_le.1 (hn (Int.le_refl 0)))
        exact hp
    · refine exists_congr fun n => and_congr Int.toNat_le (and_congr ?_ (pow_congr (lower_lang c q hq) n w))
      exact ⟨fun _ h => absurd h (Int.not_le.2 hmx), fun _ => nofun⟩
    · have hmx : 0 ≤ mx := Int.le_trans h0 hle
      refine exists_congr fun n => and_congr Int.toNat_le (and_congr ?_ (pow_congr (lower_lang c q hq) n w))
      refine ⟨fun h _ => (Int.le_toNat hmx).1 (h _ rfl), fun h m hm => ?_⟩
      cases hm
      exact (Int.le_toNat hmx).2 (h hmx)
  | .permute cs, p, h => by
    obtain ⟨ps, hps, rfl⟩ := lower_permute_ok h
    have hr := lowerList_lang cs ps hps
    intro w
    rw [lang_permAlt, LangN, length_of_relL_langNs hr]
    exact exists_congr fun σ => and_congr_right fun _ => (relL_map_lang_getD ps _ hr σ).concat w
  | .exclusion, p, h => by cases h
theorem lowerList_lang : ∀ (cs : List PNode) (ps : List Pat), lowerList cs = .ok ps → RelL (ps.map Lang) (LangNs cs)
  | [], ps, h => by
    cases h
    exact RelL.nil
  | c :: cs, ps, h => by
    obtain ⟨q, qs, hq, hqs, rfl⟩ := lowerList_cons_ok h
    exact RelL.cons (lower_lang c q hq) (lowerList_lang cs qs hqs)
theorem lowerHead_lang : ∀ (cs : List PNode) (p : Pat), lowerHead cs = .ok p → ∀ w, Lang p w ↔ HeadL (LangNs cs) w
  | [], p, h => by
    cases h
    exact fun w => Iff.rfl
  | c :: _, p, h => lower_lang c p h
end

end Cep
