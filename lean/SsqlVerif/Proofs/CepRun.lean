/-
C15, the partition table over a history of ops (`Cep.run`).  The engine is a product of independent partitions: what
`step` does to the state and the output of partition `k` is `stepAt` applied to `k`'s own state.
-/
import SsqlVerif.Proofs.CepEngine
set_option autoImplicit false

namespace Cep
section
variable {κ ρ : Type} [DecidableEq κ]

/-- the rows of partition `k` in arrival order -/
def histOf (k : κ) : List (Op κ ρ) → List ρ
  | [] => []
  | .row k' r :: ops => if k' = k then r :: histOf k ops else histOf k ops
  | .flush :: ops => histOf k ops

theorem histOf_append (k : κ) (a b : List (Op κ ρ)) : histOf k (a ++ b) = histOf k a ++ histOf k b := by
  induction a with
  | nil => rfl
  | cons op a ih =>
    cases op with
    | row k' r =>
      rw [List.cons_append, histOf, histOf, ih]
      split <;> rfl
    | flush => exact ih

theorem histOf_length_le (k : κ) (ops : List (Op κ ρ)) : (histOf k ops).length ≤ ops.length := by
  induction ops with
  | nil => exact Nat.le_refl _
  | cons op ops ih =>
    cases op with
    | row k' r =>
      rw [histOf]
      split
      · exact Nat.succ_le_succ ih
      · exact Nat.le_succ_of_le ih
    | flush => exact Nat.le_succ_of_le ih

/-- the matches reported for partition `k`, in order -/
def outsOf (k : κ) (outs : List (List (κ × Match ρ))) : List (Match ρ) :=
  (outs.flatten.filter (fun x => x.1 == k)).map (·.2)

theorem outsOf_append (k : κ) (a b : List (List (κ × Match ρ))) : outsOf k (a ++ b) = outsOf k a ++ outsOf k b := by
  simp [outsOf]

theorem outsOf_singleton_append (k : κ) (a b : List (κ × Match ρ)) :
    outsOf k [a ++ b] = outsOf k [a] ++ outsOf k [b] := by
  simp [outsOf]

theorem outsOf_cons (k : κ) (o : List (κ × Match ρ)) (outs : List (List (κ × Match ρ))) :
    outsOf k (o :: outs) = outsOf k [o] ++ outsOf k outs :=
  outsOf_append k [o] outs

theorem outsOf_tagKey_self (k : κ) (ms : List (Match ρ)) : outsOf k [tagKey k ms] = ms := by
  simp [outsOf, tagKey, List.filter_map, Function.comp_def]

theorem outsOf_tagKey_other {k k' : κ} (h : k' ≠ k) (ms : List (Match ρ)) : outsOf k [tagKey k' ms] = [] := by
  simp [outsOf, tagKey, List.filter_map, Function.comp_def, h]

def keysOf (e : Engine κ ρ) : List κ := e.parts.map (·.1)

theorem getPart_cons (x : κ × Part ρ) (xs : List (κ × Part ρ)) (k : κ) :
    getPart { parts := x :: xs } k = if x.1 = k then x.2 else getPart { parts := xs } k := by
  unfold getPart
  by_cases h : x.1 = k
  · rw [List.find?_cons_of_pos (by simpa using h), if_pos h]
  · rw [List.find?_cons_of_neg (by simpa using h), if_neg h]

theorem getPart_absent {e : Engine κ ρ} {k : κ} (h : k ∉ keysOf e) : getPart e k = {} := by
  unfold getPart
  rw [List.find?_eq_none.2 fun x hx hk => h (List.mem_map.2 ⟨x, hx, beq_iff_eq.1 hk⟩)]

theorem getPart_mem {e : Engine κ ρ} {k : κ} (h : k ∈ keysOf e) : (k, getPart e k) ∈ e.parts := by
  obtain ⟨l⟩ := e
  induction l with
  | nil => cases h
  | cons x xs ih =>
    rw [getPart_cons]
    split
    · next hx =>
      rw [← hx]
      exact List.mem_cons_self ..
    · next hx => exact List.mem_cons_of_mem _ (ih ((List.mem_cons.1 h).resolve_left (Ne.symm hx)))

theorem getPart_replace_other {k' k : κ} (h : k' ≠ k) (p : Part ρ) (l : List (κ × Part ρ)) :
    getPart { parts := l.map fun x => if x.1 == k' then (k', p) else x } k = getPart { parts := l } k := by
  induction l with
  | nil => rfl
  | cons x xs ih =>
    rw [List.map_cons, getPart_cons, getPart_cons, ih]
    by_cases hx : x.1 = k'
    · rw [if_pos (beq_iff_eq.2 hx), if_neg h, if_neg (hx ▸ h)]
    · rw [if_neg (mt beq_iff_eq.1 hx)]

theorem getPart_replace_self {k : κ} (p : Part ρ) {l : List (κ × Part ρ)} (h : k ∈ l.map (·.1)) :
    getPart { parts := l.map fun x => if x.1 == k then (k, p) else x } k = p := by
  induction l with
  | nil => cases h
  | cons x xs ih =>
    rw [List.map_cons, getPart_cons]
    by_cases hx : x.1 = k
    · rw [if_pos (beq_iff_eq.2 hx), if_pos rfl]
    · rw [if_neg (mt beq_iff_eq.1 hx), if_neg hx]
      exact ih ((List.mem_cons.1 h).resolve_left (Ne.symm hx))

theorem getPart_snoc (k' k : κ) (p : Part ρ) {l : List (κ × Part ρ)} (h : k' ∉ l.map (·.1)) :
    getPart { parts := l ++ [(k', p)] } k = if k' = k then p else getPart { parts := l } k := by
  induction l with
  | nil => exact getPart_cons (k', p) [] k
  | cons x xs ih =>
    have hne : x.1 ≠ k' := fun hx => h (List.mem_cons.2 (Or.inl hx.symm))
    rw [List.cons_append, getPart_cons, getPart_cons, ih fun hk => h (List.mem_cons_of_mem _ hk)]
    by_cases h1 : k' = k
    · rw [if_pos h1, if_neg (h1 ▸ hne), if_pos h1]
    · rw [if_neg h1, if_neg h1]

theorem any_key_iff (e : Engine κ ρ) (k : κ) : e.parts.any (fun x => x.1 == k) = true ↔ k ∈ keysOf e := by
  simp only [keysOf, List.any_eq_true, List.mem_map, beq_iff_eq]

theorem keysOf_setPart (e : Engine κ ρ) (k : κ) (p : Part ρ) :
    keysOf (setPart e k p) = if k ∈ keysOf e then keysOf e else keysOf e ++ [k] := by
  unfold setPart
  by_cases h : k ∈ keysOf e
  · rw [if_pos ((any_key_iff e k).2 h), if_pos h]
    simp only [keysOf, List.map_map]
    apply List.map_congr_left
    intro x hx
    simp only [Function.comp]
    split
    · next hk => exact (by simpa using hk : x.1 = k).symm
    · rfl
  · rw [if_neg (fun hh => h ((any_key_iff e k).1 hh)), if_neg h]
    simp [keysOf]

theorem nodup_setPart {e : Engine κ ρ} (h : (keysOf e).Nodup) (k : κ) (p : Part ρ) : (keysOf (setPart e k p)).Nodup := by
  rw [keysOf_setPart]
  split
  · exact h
  · next hk =>
    refine List.nodup_append.2 ⟨h, List.pairwise_singleton _ _, fun a ha b hb hh => ?_⟩
    rw [List.mem_singleton.1 hb] at hh
    exact hk (hh ▸ ha)

theorem getPart_setPart (e : Engine κ ρ) (k' k : κ) (p : Part ρ) :
    getPart (setPart e k' p) k = if k' = k then p else getPart e k := by
  unfold setPart
  split
  · next hany =>
    split
    · next h =>
      subst h
      exact getPart_replace_self p ((any_key_iff e k').1 hany)
    · next h => exact getPart_replace_other h p e.parts
  · next hany => exact getPart_snoc k' k p (mt (any_key_iff e k').2 hany)

theorem flushPart_default (c : Cfg ρ) : flushPart c ({} : Part ρ) = ({}, []) := by
  unfold flushPart emitFlush
  cases hl : c.lazy <;>
    simp [flushStart, ingest, emitGreedy, minStart, prunePending, sortLazy, emitLazy]

omit [DecidableEq κ] in
theorem flushAll_keys (c : Cfg ρ) : ∀ (parts : List (κ × Part ρ)), (flushAll c parts).1.map (·.1) = parts.map (·.1)
  | [] => rfl
  | (k, p) :: rest => by simp [flushAll, consFlush, flushAll_keys c rest]

theorem flushAll_at (c : Cfg ρ) (k : κ) (parts : List (κ × Part ρ)) (hnd : (parts.map (·.1)).Nodup) :
    (getPart ({ parts := (flushAll c parts).1 } : Engine κ ρ) k, outsOf k [(flushAll c parts).2]) =
      flushPart c (getPart { parts := parts } k) := by
  induction parts with
  | nil => exact (flushPart_default c).symm
  | cons x rest ih =>
    obtain ⟨h0, hnd⟩ := List.nodup_cons.1 hnd
    rw [flushAll, consFlush, getPart_cons, getPart_cons, outsOf_singleton_append]
    split
    · next hk =>
      -- no other entry has the key: the rest of the table reports nothing for it
      have hr := ih hnd
      rw [getPart_absent (e := { parts := rest }) (hk ▸ h0), flushPart_default] at hr
      rw [hk, outsOf_tagKey_self, (Prod.mk.inj hr).2, List.append_nil]
    · next hk =>
      rw [outsOf_tagKey_other hk, List.nil_append]
      exact ih hnd

/-- `step` as partition `k` sees it -/
def stepAt (c : Cfg ρ) (k : κ) (p : Part ρ) : Op κ ρ → Part ρ × List (Match ρ)
  | .row k' r => if k' = k then stepPart c p r else (p, [])
  | .flush => flushPart c p

theorem step_getPart_outsOf (c : Cfg ρ) {e : Engine κ ρ} (hn : (keysOf e).Nodup) (op : Op κ ρ) (k : κ) :
    (getPart (step c e op).1 k, outsOf k [(step c e op).2]) = stepAt c k (getPart e k) op := by
  cases op with
  | row k' r =>
    simp only [step, stepAt]
    split
    · next h => rw [h, outsOf_tagKey_self, getPart_setPart, if_pos rfl]
    · next h => rw [outsOf_tagKey_other h, getPart_setPart, if_neg h]
  | flush => exact flushAll_at c k e.parts hn

theorem nodup_step (c : Cfg ρ) {e : Engine κ ρ} (hn : (keysOf e).Nodup) (op : Op κ ρ) :
    (keysOf (step c e op).1).Nodup := by
  cases op with
  | row k r => exact nodup_setPart hn _ _
  | flush => exact (congrArg List.Nodup (flushAll_keys c e.parts)).mpr hn

/-- every stored partition satisfies `Inv` for its own rows; partitions never seen have no rows;
keys are stored once -/
structure EInv (c : Cfg ρ) (pre : List (Op κ ρ)) (e : Engine κ ρ) : Prop where
  parts : ∀ x ∈ e.parts, Inv c (histOf x.1 pre) x.2
  absent : ∀ k, k ∉ keysOf e → histOf k pre = []
  nodup : (keysOf e).Nodup

theorem EInv.init (c : Cfg ρ) : EInv c ([] : List (Op κ ρ)) ({} : Engine κ ρ) :=
  { parts := fun x h => (by cases h), absent := fun k _ => rfl, nodup := List.nodup_nil }

theorem EInv.inv {c : Cfg ρ} {pre : List (Op κ ρ)} {e : Engine κ ρ} (h : EInv c pre e) (k : κ) :
    Inv c (histOf k pre) (getPart e k) := by
  by_cases hk : k ∈ keysOf e
  · exact h.parts _ (getPart_mem hk)
  · rw [getPart_absent hk, h.absent k hk]
    exact Inv.init c

theorem EInv.of_inv {c : Cfg ρ} {pre : List (Op κ ρ)} {e : Engine κ ρ} (hn : (keysOf e).Nodup)
    (h : ∀ k, Inv c (histOf k pre) (getPart e k)) : EInv c pre e :=
  { parts := fun x hx => by
      have hk : x.1 ∈ keysOf e := List.mem_map.2 ⟨x, hx, rfl⟩
      rw [eq_of_nodup_map hn hx (getPart_mem hk) rfl]
      exact h x.1
    absent := fun k hk => by
      have := (h k).seq
      rw [getPart_absent hk] at this
      exact List.eq_nil_of_length_eq_zero this.symm
    nodup := hn }

theorem stepAt_ok {c : Cfg ρ} (hw : 0 ≤ c.within) {H : List ρ} {p : Part ρ} (h : Inv c H p) (k : κ) (op : Op κ ρ) :
    StepOK c (H ++ histOf k [op]) p (stepAt c k p op) := by
  cases op with
  | row k' r =>
    simp only [stepAt, histOf]
    split
    · exact stepPart_ok hw h r
    · rw [List.append_nil]
      exact StepOK.refl h
  | flush =>
    rw [histOf, histOf, List.append_nil]
    exact flushPart_ok h

theorem step_inv {c : Cfg ρ} (hw : 0 ≤ c.within) {pre : List (Op κ ρ)} {e : Engine κ ρ} (h : EInv c pre e)
    (op : Op κ ρ) : EInv c (pre ++ [op]) (step c e op).1 :=
  EInv.of_inv (nodup_step c h.nodup op) fun k => by
    have := (stepAt_ok hw (h.inv k) k op).inv
    rwa [← step_getPart_outsOf c h.nodup, ← histOf_append] at this

theorem run_cons (c : Cfg ρ) (e : Engine κ ρ) (op : Op κ ρ) (ops : List (Op κ ρ)) :
    run c e (op :: ops) = ((run c (step c e op).1 ops).1, (step c e op).2 :: (run c (step c e op).1 ops).2) := rfl

theorem run_ok {c : Cfg ρ} (hw : 0 ≤ c.within) (k : κ) (ops pre : List (Op κ ρ)) (e : Engine κ ρ) (h : EInv c pre e) :
    EInv c (pre ++ ops) (run c e ops).1 ∧
    StepOK c (histOf k (pre ++ ops)) (getPart e k) (getPart (run c e ops).1 k, outsOf k (run c e ops).2) := by
  induction ops generalizing pre e with
  | nil =>
    rw [List.append_nil]
    exact ⟨h, StepOK.refl (h.inv k)⟩
  | cons op ops ih =>
    obtain ⟨hi, hs⟩ := ih (pre ++ [op]) _ (step_inv hw h op)
    have h1 := stepAt_ok hw (h.inv k) k op
    rw [← step_getPart_outsOf c h.nodup, ← histOf_append] at h1
    rw [histOf_append] at hs
    rw [List.append_cons, run_cons, outsOf_cons, histOf_append]
    exact ⟨hi, h1.trans hs⟩

theorem run_init_ok {c : Cfg ρ} (hw : 0 ≤ c.within) (k : κ) (ops : List (Op κ ρ)) :
    EInv c ops (run c ({} : Engine κ ρ) ops).1 ∧
    StepOK c (histOf k ops) {} (getPart (run c ({} : Engine κ ρ) ops).1 k, outsOf k (run c ({} : Engine κ ρ) ops).2) :=
  run_ok hw k ops [] {} (EInv.init c)

theorem run_append (c : Cfg ρ) (a b : List (Op κ ρ)) (e : Engine κ ρ) :
    (run c e (a ++ b)).2 = (run c e a).2 ++ (run c (run c e a).1 b).2 ∧
    (run c e (a ++ b)).1 = (run c (run c e a).1 b).1 := by
  induction a generalizing e with
  | nil => exact ⟨rfl, rfl⟩
  | cons op a ih =>
    obtain ⟨h1, h2⟩ := ih (step c e op).1
    rw [List.cons_append, run_cons, run_cons]
    exact ⟨congrArg _ h1, h2⟩

/-- the ops partition `k` can see: its own rows and the flushes -/
def relevant (k : κ) : Op κ ρ → Bool
  | .row k' _ => k' == k
  | .flush => true

theorem stepAt_irrelevant (c : Cfg ρ) {k : κ} {op : Op κ ρ} (h : relevant k op = false) (p : Part ρ) :
    stepAt c k p op = (p, []) := by
  cases op with
  | row k' r =>
    simp only [relevant, beq_eq_false_iff_ne] at h
    simp only [stepAt, if_neg h]
  | flush => cases h

theorem outsOf_run_relevant {c : Cfg ρ} (k : κ) (ops : List (Op κ ρ)) (e1 e2 : Engine κ ρ) (n1 : (keysOf e1).Nodup)
    (n2 : (keysOf e2).Nodup) (hg : getPart e1 k = getPart e2 k) :
    outsOf k (run c e1 ops).2 = outsOf k (run c e2 (ops.filter (relevant k))).2 := by
  induction ops generalizing e1 e2 with
  | nil => rfl
  | cons op ops ih =>
    have h1 := step_getPart_outsOf c n1 op k
    rw [run_cons, outsOf_cons]
    cases hr : relevant k op with
    | false =>
      rw [stepAt_irrelevant c hr] at h1
      rw [List.filter_cons_of_neg (by simp [hr]), (Prod.mk.inj h1).2, List.nil_append]
      exact ih _ e2 (nodup_step c n1 op) n2 ((Prod.mk.inj h1).1.trans hg)
    | true =>
      have h2 := step_getPart_outsOf c n2 op k
      rw [hg, ← h2] at h1
      rw [List.filter_cons_of_pos hr, run_cons, outsOf_cons (o := (step c e2 op).2), (Prod.mk.inj h1).2]
      exact congrArg _ (ih _ _ (nodup_step c n1 op) (nodup_step c n2 op) (Prod.mk.inj h1).1)

end
end Cep
