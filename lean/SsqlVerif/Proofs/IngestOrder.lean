/-
A single producer's rows are processed in emission order when the consumer receives under the read lock.
The rows on their way to query processing form one queue, `pipe` = processed rows, then the
rows already migrated to the new channel, then the rows still in the old/current channel.
A send appends to it (unless the reference is nil: then the row goes where nobody receives),
receives and migration steps do not change it, Stop cuts off its tail.
-/
import SsqlVerif.Proofs.IngestStep
set_option autoImplicit false

namespace Ingest

def bufOf (s : State) (h : Nat) : List Row :=
  match s.chans[h]? with
  | some ch => ch.buf
  | none => []

def bufOpt (s : State) : Option Nat → List Row
  | none => []
  | some h => bufOf s h

/-- the rows buffered on the path to the consumer, in the order they will be received -/
def live (s : State) : List Row :=
  match s.mig with
  | some (_, o, n) => bufOf s n ++ bufOpt s o
  | none => bufOpt s s.curCh

def pipe (s : State) : List Row := s.processed ++ live s

def seqsOf (p : Nat) (l : List Row) : List Nat := (l.filter (fun r => r.prod == p)).map (·.seq)

/-- the sequence number a producer's next buffered row will have at least -/
def bnd (q : Prod) : Nat :=
  match q.cur with
  | some r => r.seq
  | none => q.next

def bound (s : State) (p : Nat) : Nat :=
  match s.prods[p]? with
  | some q => bnd q
  | none => 0

/-- each producer's rows in the queue are in emission order and below what it sends next -/
def OrdInv (s : State) : Prop :=
  ∀ p, List.Pairwise (· < ·) (seqsOf p (pipe s)) ∧ ∀ k ∈ seqsOf p (pipe s), k < bound s p

theorem seqsOf_append (p : Nat) (a b : List Row) : seqsOf p (a ++ b) = seqsOf p a ++ seqsOf p b := by
  simp [seqsOf, List.filter_append]

theorem ord_prefix {s s' : State} {t : List Row} (hpipe : pipe s = pipe s' ++ t) (hb : ∀ p, bound s p ≤ bound s' p)
    (h : OrdInv s) : OrdInv s' := by
  intro p
  have ⟨h1, h2⟩ := h p
  rw [hpipe, seqsOf_append] at h1 h2
  exact ⟨(List.pairwise_append.mp h1).1, fun k hk => Nat.lt_of_lt_of_le (h2 k (List.mem_append_left _ hk)) (hb p)⟩

theorem ord_same {s s' : State} (hpipe : pipe s' = pipe s) (hb : ∀ p, bound s p ≤ bound s' p)
    (h : OrdInv s) : OrdInv s' :=
  ord_prefix (t := []) (by rw [hpipe, List.append_nil]) hb h

/-- a row carrying its producer's bound joins the end of the queue -/
theorem ord_snoc {s s' : State} {r : Row} (hpipe : pipe s' = pipe s ++ [r]) (hr : r.seq = bound s r.prod)
    (hr' : r.seq < bound s' r.prod) (hb : ∀ p, bound s p ≤ bound s' p) (h : OrdInv s) : OrdInv s' := by
  intro p
  have ⟨h1, h2⟩ := h p
  rw [hpipe, seqsOf_append]
  by_cases hp : r.prod = p
  · subst hp
    have hs : seqsOf r.prod [r] = [r.seq] := by simp [seqsOf]
    rw [hs]
    refine ⟨List.pairwise_append.mpr ⟨h1, List.pairwise_singleton _ _, fun a ha b hb' => ?_⟩, fun k hk => ?_⟩
    · cases List.mem_singleton.mp hb'
      exact hr ▸ h2 a ha
    · rcases List.mem_append.mp hk with hk | hk
      · exact Nat.lt_of_lt_of_le (h2 k hk) (hb _)
      · cases List.mem_singleton.mp hk
        exact hr'
  · have hs : seqsOf p [r] = [] := by simp [seqsOf, hp]
    rw [hs, List.append_nil]
    exact ⟨h1, fun k hk => Nat.lt_of_lt_of_le (h2 k hk) (hb p)⟩

-- `ps` does not occur in the statement
set_option linter.unusedVariables false in
theorem bound_set_ne (s : State) (ps : List Prod) (i p : Nat) (q : Prod) (h : p ≠ i) :
    (match (s.prods.set i q)[p]? with | some q => bnd q | none => 0) = bound s p := by
  rw [List.getElem?_set_ne (Ne.symm h)]
  rfl

theorem bound_le_set {s s' : State} {i : Nat} {p q : Prod} (hprods : s'.prods = s.prods.set i q)
    (hp : s.prods[i]? = some p) (hb : bnd p ≤ bnd q) (j : Nat) : bound s j ≤ bound s' j := by
  simp only [bound, hprods]
  by_cases hj : j = i
  · rw [hj, getElem?_set_of_some _ hp, hp]
    exact hb
  · rw [List.getElem?_set_ne (Ne.symm hj)]
    exact Nat.le_refl _

theorem bnd_le_next {i : Nat} {p : Prod} (hcur : CurOk i p) :
    bnd p ≤ p.next := by
  unfold bnd
  cases hc : p.cur with
  | none => exact Nat.le_refl _
  | some r =>
    rw [(hcur r hc).1]
    exact Nat.sub_le _ _

theorem bnd_le_record {i : Nat} {p : Prod} (nx : Next)
    (hcur : CurOk i p) : bnd p ≤ bnd (nx.record p) := by
  cases nx with
  | goto pc => exact Nat.le_refl _
  | _ => exact bnd_le_next hcur

-- `s` does not occur in the statement
set_option linter.unusedVariables false in
theorem bufOf_set_self (s : State) (cs : List Chan) (h : Nat) (ch ch' : Chan) (hc : cs[h]? = some ch) :
    (match (cs.set h ch')[h]? with | some c => c.buf | none => []) = ch'.buf := by
  rw [getElem?_set_of_some _ hc]

theorem bufOf_append_lt (s : State) (x : Chan) (h : Nat) (hlt : h < s.chans.length) :
    (match (s.chans ++ [x])[h]? with | some c => c.buf | none => []) = bufOf s h := by
  rw [List.getElem?_append_left hlt]
  rfl

theorem bufOpt_of_oldEmpty {s : State} {o : Option Nat} (h : oldEmpty s o = true) : bufOpt s o = [] := by
  cases o with
  | none => rfl
  | some o' =>
    simp only [oldEmpty] at h
    simp only [bufOpt, bufOf]
    cases hco : s.chans[o']? with
    | none => rfl
    | some co =>
      rw [hco] at h
      exact List.isEmpty_iff.mp h

theorem pipe_apply (s0 : State) (i : Nat) (p : Prod) (nx : Next) : pipe (nx.apply s0 i p) = pipe s0 := by
  cases nx <;> rfl

theorem ord_apply {s s0 : State} {i : Nat} {p : Prod} (nx : Next) (ho : OrdInv s) (hp : s.prods[i]? = some p)
    (hcur : CurOk i p) (hprods : s0.prods = s.prods)
    (hpipe : pipe s0 = pipe s) : OrdInv (nx.apply s0 i p) :=
  ord_same ((pipe_apply s0 i p nx).trans hpipe)
    (bound_le_set ((apply_prods s0 i p nx).trans (hprods ▸ rfl)) hp (bnd_le_record nx hcur)) ho

theorem ord_kind {c : Cfg} {s s' : State} (hcl : c.consLock = true) (hinv : Inv c s) (hci : CI s)
    (ho : OrdInv s) (k : Kind c s s') : OrdInv s' := by
  have same : ∀ {s1 : State}, s1.prods = s.prods → pipe s1 = pipe s → OrdInv s1 := fun hprods hpipe =>
    ord_same hpipe (fun j => Nat.le_of_eq (by simp only [bound, hprods])) ho
  cases k with
  | @prod i p _ hp k =>
    have hP := hinv.p i p hp
    cases k with
    | move e nx => exact ord_apply nx ho hp hP.hcur rfl rfl
    | emit hpc =>
      have hcur : p.cur = none := hci.idle p (List.mem_of_getElem? hp) hpc
      refine ord_same (pipe_apply _ i _ _) (bound_le_set (apply_prods _ i _ _) hp ?_) ho
      rw [show bnd p = p.next by simp only [bnd, hcur]]
      cases emitNext c s <;> simp [Next.record, bnd, idled, emitted]
    | push h ch _ hm hcur hch =>
      have hch' := getElem?_set_of_some { ch with buf := ch.buf ++ p.cur.toList } hch
      have hb := bound_le_set (s' := { s with chans := s.chans.set h { ch with buf := ch.buf ++ p.cur.toList },
                                              prods := s.prods.set i (idled p) }) rfl hp (bnd_le_next hP.hcur)
      rcases Option.eq_none_or_eq_some s.curCh with hc | ⟨h', hc⟩
      · -- nil reference: the row goes to a channel nobody receives from
        exact ord_same (by simp only [pipe, live, hm, hc, bufOpt]) hb ho
      cases hcur h' hc
      have hpipe : pipe { s with chans := s.chans.set h { ch with buf := ch.buf ++ p.cur.toList },
                                 prods := s.prods.set i (idled p) } = pipe s ++ p.cur.toList := by
        simp only [pipe, live, hm, hc, bufOpt, bufOf, hch, hch', List.append_assoc]
      rcases Option.eq_none_or_eq_some p.cur with hr | ⟨r, hr⟩
      · have hnil : p.cur.toList = [] := congrArg Option.toList hr
        exact ord_same ((hpipe.trans (congrArg (pipe s ++ ·) hnil)).trans (List.append_nil _)) hb ho
      have hone : p.cur.toList = [r] := congrArg Option.toList hr
      obtain ⟨rfl, hpos⟩ := hP.hcur r hr
      refine ord_snoc (hpipe.trans (congrArg (pipe s ++ ·) hone)) ?_ ?_ hb ho
      · simp only [bound, hp, bnd, hr]
      · simp only [bound, getElem?_set_of_some _ hp, bnd, idled]
        exact Nat.sub_lt hpos Nat.one_pos
    | lock n hg hk =>
      have hm := (wGuard_facts hg).1
      refine ord_apply _ ho hp hP.hcur rfl ?_
      simp only [pipe, live, hm, bufOf, List.getElem?_concat_length, List.nil_append]
      cases hc : s.curCh with
      | none => rfl
      | some h =>
        exact congrArg _ (bufOf_append_lt s _ h (hinv.core.curLast hm h hc ▸ Nat.lt_succ_self h))
    | swap o n hm hempty =>
      refine ord_apply _ ho hp hP.hcur rfl ?_
      simp only [pipe, live, hm, bufOpt_of_oldEmpty hempty, List.append_nil]
      rfl
    | mig o n co cn r rest hm hon hco hcn hb =>
      refine same rfl ?_
      have hcn' : (s.chans.set o { co with buf := rest })[n]? = some cn := (List.getElem?_set_ne hon).trans hcn
      simp only [pipe, live, hm, bufOpt, bufOf, hcn, hco, hb, getElem?_set_of_some _ hcn',
        List.getElem?_set_ne hon.symm, getElem?_set_of_some _ hco, List.append_assoc, List.singleton_append]
  | recv h ch r rest hcs hch hb =>
    obtain ⟨hm, hc⟩ := hinv.core.hold hcl h hcs
    refine same rfl ?_
    simp only [pipe, live, hm, hc, bufOpt, bufOf, hch, hb, getElem?_set_of_some _ hch, List.append_assoc,
      List.singleton_append]
  | ctl cons stopPc stopped done curCh hcur =>
    rcases hcur with rfl | ⟨rfl, hm⟩
    · exact same rfl rfl
    · exact ord_prefix (s := s) (t := live s) (by simp only [pipe, live, hm, bufOpt, List.append_nil])
        (fun _ => Nat.le_refl _) ho

theorem ord_init (c : Cfg) (n : Nat) : OrdInv (init c n) := by
  intro p
  simp [pipe, live, init, bufOpt, bufOf, seqsOf]

/-- the processed rows are the head of the queue -/
theorem processed_sorted {s : State} (h : OrdInv s) (p : Nat) : List.Pairwise (· < ·) (seqsOf p s.processed) := by
  have := (h p).1
  rw [pipe, seqsOf_append] at this
  exact (List.pairwise_append.mp this).1

end Ingest
