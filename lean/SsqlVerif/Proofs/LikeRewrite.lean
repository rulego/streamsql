/-
C13: soundness of `convertLikeToFunction` (pattern → operator rewriting). A pattern is a run of
`%`, its trimmed middle, a run of `%`; with a wildcard-free middle the four ways the runs can be
empty or not are `==`, `startsWith`, `endsWith`, `contains`.
-/
import SsqlVerif.Proofs.Like
set_option autoImplicit false

namespace Like
section
variable {α : Type} [DecidableEq α] (pct und : α)

/-- a wildcard-free word -/
def Plain (l : List α) : Prop := ∀ x ∈ l, x ≠ pct ∧ x ≠ und

omit [DecidableEq α] in
variable {pct und} in
theorem Plain.tail {x : α} {l : List α} (h : Plain pct und (x :: l)) : Plain pct und l :=
  fun y hy => h y (List.mem_cons_of_mem _ hy)

theorem spec_plain_eq (l : List α) (h : Plain pct und l) (t : List α) :
    likeSpec pct und l t = decide (t = l) := by
  induction l generalizing t with
  | nil => cases t <;> simp [likeSpec]
  | cons x xs ih =>
    have hx := h x List.mem_cons_self
    cases t with
    | nil => simp [spec_lit_nil pct und x hx.1]
    | cons c t' =>
      rw [spec_lit pct und x hx.1, ih h.tail]
      simp [hx.2, eq_comm]

theorem spec_pcts (n : Nat) (p t : List α) :
    likeSpec pct und (List.replicate (n+1) pct ++ p) t = likeSpec pct und (pct :: p) t := by
  induction n with
  | zero => rfl
  | succ n ih => rw [List.replicate_succ, List.cons_append, ← ih, List.replicate_succ, List.cons_append,
      spec_pct_pct]

theorem spec_allpct (n : Nat) (t : List α) :
    likeSpec pct und (List.replicate (n+1) pct) t = true := by
  rw [← List.append_nil (List.replicate _ _), spec_pcts]
  induction t with
  | nil =>
    rw [spec_pct_nil]
    rfl
  | cons c t ih => rw [spec_pct_tail, List.tail_cons, ih, Bool.or_true]

theorem spec_prefix (l : List α) (h : Plain pct und l) (n : Nat) (t : List α) :
    likeSpec pct und (l ++ List.replicate (n+1) pct) t = l.isPrefixOf t := by
  induction l generalizing t with
  | nil => simp [spec_allpct]
  | cons x xs ih =>
    have hx := h x List.mem_cons_self
    cases t with
    | nil => simp [spec_lit_nil pct und x hx.1]
    | cons c t' =>
      rw [List.cons_append, spec_lit pct und x hx.1, ih h.tail]
      simp only [List.isPrefixOf, hx.2, decide_false, Bool.false_or]
      rfl

theorem spec_contains (l : List α) (h : Plain pct und l) (a b : Nat) (t : List α) :
    likeSpec pct und (List.replicate (a+1) pct ++ (l ++ List.replicate (b+1) pct)) t = isInfix l t := by
  rw [spec_pcts]
  induction t with
  | nil =>
    rw [spec_pct_nil, spec_prefix pct und l h]
    cases l <;> rfl
  | cons c t ih => rw [spec_pct_tail, spec_prefix pct und l h, List.tail_cons, ih, isInfix]

theorem spec_suffix (l : List α) (h : Plain pct und l) (a : Nat) (t : List α) :
    likeSpec pct und (List.replicate (a+1) pct ++ l) t = l.reverse.isPrefixOf t.reverse := by
  rw [spec_pcts, Bool.eq_iff_iff, List.isPrefixOf_iff_prefix, List.reverse_prefix]
  induction t with
  | nil => rw [spec_pct_nil, spec_plain_eq pct und l h, List.suffix_nil, decide_eq_true_eq, eq_comm]
  | cons c t ih =>
    rw [spec_pct_tail, spec_plain_eq pct und l h, List.tail_cons, Bool.or_eq_true, ih,
      List.suffix_cons_iff, decide_eq_true_eq, eq_comm]

theorem trimLeft_decomp (s : List α) :
    ∃ a, s = List.replicate a pct ++ trimLeft pct s ∧ hasPrefixPct pct s = decide (0 < a) := by
  induction s with
  | nil => exact ⟨0, rfl, rfl⟩
  | cons c cs ih =>
    by_cases hc : c = pct
    · obtain ⟨a, h1, _⟩ := ih
      refine ⟨a+1, ?_, by simp [hasPrefixPct, hc]⟩
      rw [trimLeft, if_pos hc, List.replicate_succ, List.cons_append, ← h1, hc]
    · refine ⟨0, ?_, by simp [hasPrefixPct, hc]⟩
      rw [trimLeft, if_neg hc]
      rfl

theorem hasPrefixPct_append {x : List α} (h : x ≠ []) (y : List α) :
    hasPrefixPct pct (x ++ y) = hasPrefixPct pct x := by
  cases x with
  | nil => exact absurd rfl h
  | cons c x => rfl

theorem trim_decomp (p : List α) :
    ∃ a b, p = List.replicate a pct ++ (trim pct p ++ List.replicate b pct) ∧
      (trim pct p ≠ [] → hasPrefixPct pct p = decide (0 < a) ∧ hasSuffixPct pct p = decide (0 < b)) := by
  obtain ⟨a, ha, hpa⟩ := trimLeft_decomp pct p
  obtain ⟨b, hb, hpb⟩ := trimLeft_decomp pct (trimLeft pct p).reverse
  have hu : trimLeft pct p = trim pct p ++ List.replicate b pct := by
    rw [← List.reverse_reverse (trimLeft pct p), hb, List.reverse_append, List.reverse_replicate, trim]
  refine ⟨a, b, hu ▸ ha, fun hne => ⟨hpa, ?_⟩⟩
  have hne' : (trimLeft pct p).reverse ≠ [] := by
    rw [hu]
    simp [hne]
  have := congrArg List.reverse ha
  rw [List.reverse_append] at this
  rw [hasSuffixPct, this, hasPrefixPct_append pct hne' _, hpb]

theorem convertLike_sound (p t : List α) :
    evalRewritten pct und t (convertLike pct und p) = likeSpec pct und p t := by
  obtain ⟨a, b, hp, hps⟩ := trim_decomp pct p
  unfold convertLike
  by_cases h0 : p = []
  · subst h0
    cases t <;> rfl
  rw [if_neg h0]
  by_cases h1 : trim pct p ≠ [] ∧ ((trim pct p).contains und ∨ (trim pct p).contains pct)
  · rw [if_pos h1]
    exact likeImpl_eq_spec pct und t p
  rw [if_neg h1]
  by_cases h2 : trim pct p = []
  · rw [if_pos h2]
    rw [h2, List.nil_append, List.replicate_append_replicate] at hp
    cases hn : a + b with
    | zero =>
      rw [hn] at hp
      exact absurd hp h0
    | succ n =>
      rw [hp, hn]
      exact (spec_allpct pct und n t).symm
  rw [if_neg h2]
  have hplain : Plain pct und (trim pct p) := fun x hx =>
    ⟨fun hxp => h1 ⟨h2, Or.inr (List.contains_iff_mem.2 (hxp ▸ hx))⟩,
     fun hxu => h1 ⟨h2, Or.inl (List.contains_iff_mem.2 (hxu ▸ hx))⟩⟩
  rw [(hps h2).1, (hps h2).2]
  generalize trim pct p = m at hp hplain ⊢
  subst hp
  cases a
  all_goals cases b
  all_goals simp [evalRewritten]
  · exact (spec_plain_eq pct und _ hplain t).symm
  · exact (spec_prefix pct und _ hplain _ t).symm
  · exact (spec_suffix pct und _ hplain _ t).symm
  · exact (spec_contains pct und _ hplain _ _ t).symm

end
end Like
