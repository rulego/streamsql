/-
The kinds of step. Every enabled step is a producer moving on, an Emit, a send, one of the three
phases of an expansion, a receive, or a change of the consumer's and Stop's control state. The step
function is taken apart once (`step_kind`), recording with each kind what the structural invariant
says at that moment; each invariant is then preserved kind by kind.
-/
import SsqlVerif.Proofs.IngestInv
set_option autoImplicit false

namespace Ingest

/-- `P` holds of the successor state, if the step is enabled -/
def Post (P : State → Prop) (o : Option State) : Prop := ∀ s', o = some s' → P s'

theorem Post.none {P : State → Prop} : Post P none := fun _ h => nomatch h

theorem Post.some {P : State → Prop} {a : State} (h : P a) : Post P (some a) :=
  fun _ e => Option.some.inj e ▸ h

theorem Post.ite {P : State → Prop} {b : Prop} [Decidable b] {x y : Option State}
    (hx : b → Post P x) (hy : ¬ b → Post P y) : Post P (if b then x else y) := by
  split
  · exact hx ‹_›
  · exact hy ‹_›

theorem nxOk_afterFail {c : Cfg} {s : State} {i att : Nat} (h : StratSend c att) : NxOk c s i (afterFail c att) := by
  fun_cases afterFail c att
  case case1 hd => exact ⟨hd, nofun⟩ -- drop
  case case2 he _ => exact ⟨he, nofun⟩ -- expand, first failure
  case case3 he _ _ => exact ⟨he, nofun⟩ -- expand, retry
  case case4 he _ _ => -- expand, give up
    intro hb
    rw [he] at hb
    cases hb.1
  case case5 hb => exact absurd h (by simp [StratSend, hb]) -- block

/-- under `StratSend` the send path never returns silently and its targets ask nothing of the state,
so `trySend c s` may be applied to another state `s0` -/
theorem nxOk_trySend {c : Cfg} {s0 : State} {i att : Nat} (s : State) (h : StratSend c att) :
    NxOk c s0 i (trySend c s att) := by
  fun_cases trySend c s att
  case case1 => exact nxOk_afterFail h -- stopped
  case case2 => exact ⟨h, nofun⟩

theorem nxOk_emitNext {c : Cfg} {s s0 : State} (i : Nat) (hst : s0.stopped = s.stopped) : NxOk c s0 i (emitNext c s) := by
  fun_cases emitNext c s
  case case1 hd => exact nxOk_trySend s (.inl ⟨hd, rfl⟩) -- drop
  case case2 _ h => exact hst.trans h -- expand, stopped
  case case3 he _ => exact ⟨.inr he, nofun⟩ -- expand
  case case4 _ h => exact hst.trans h -- block, stopped
  case case5 hb _ => exact ⟨hb, nofun⟩ -- block

theorem nxOk_dropTimer {c : Cfg} {s : State} {i h : Nat} (k : Nat) (hd : c.strat = .drop) (hh : h = 0) :
    NxOk c s i (dropTimer k h) := by
  fun_cases dropTimer k h
  case case1 => exact ⟨⟨hd, hh⟩, nofun⟩ -- retry
  case case2 => -- give up
    intro hb
    rw [hd] at hb
    cases hb.1

theorem rGuard_mig {s : State} (h : rGuard s = true) : s.mig = none := by
  simpa [rGuard, wHeld] using h

theorem wGuard_facts {c : Cfg} {s : State} (h : wGuard c s = true) :
    s.mig = none ∧ (∀ q ∈ s.prods, isRdPc q.pc = false) ∧ (c.consLock = true → ∀ h, s.cons ≠ .cHold h) := by
  simp only [wGuard, rdIn, Bool.and_eq_true, Bool.not_eq_true', Bool.or_eq_false_iff, Bool.and_eq_false_iff] at h
  obtain ⟨h1, h2, h3⟩ := h
  refine ⟨by simpa [wHeld] using h1, fun q hq => by simpa using List.any_eq_false.mp h2 q hq, ?_⟩
  intro ha h hb
  rcases h3 with h3 | h3
  · rw [ha] at h3
    cases h3
  · rw [hb] at h3
    cases h3

theorem isHold_cHold (h : Nat) : isHold (.cHold h) = true := rfl

/-- the successor states of a step of producer `i`, by kind, each with the facts about `s` that the
invariants need to survive it -/
inductive PStep (c : Cfg) (s : State) (i : Nat) (p : Prod) : State → Prop
  /-- `e` is the new expansion guard: somebody else's stays theirs -/
  | move (e : Option Nat) (nx : Next) : p.pc ≠ .expMig →
      (∀ j, j ≠ i → s.expanding = some j → e = some j) → NxOk c { s with expanding := e } i nx →
      PStep c s i p (nx.apply { s with expanding := e } i p)
  | emit : p.pc = .idle →
      PStep c s i p ((emitNext c s).apply { s with input := s.input + 1 } i (emitted p))
  /-- the row is sent to channel `h`, which the reference points to unless it is nil -/
  | push (h : Nat) (ch : Chan) : p.pc ≠ .expMig → s.mig = none → (∀ h', s.curCh = some h' → h' = h) →
      s.chans[h]? = some ch →
      PStep c s i p { s with chans := s.chans.set h { ch with buf := ch.buf ++ p.cur.toList },
                             prods := s.prods.set i (idled p) }
  | lock (n : Nat) : wGuard c s = true → PcOk c s i (.expWLock n) →
      PStep c s i p ((Next.goto .expMig).apply
        { s with chans := s.chans ++ [{ cap := n, buf := [] }], mig := some (i, s.curCh, s.chans.length) } i p)
  | swap (o : Option Nat) (n : Nat) : s.mig = some (i, o, n) → oldEmpty s o = true →
      c.strat = .expand → s.expanding = some i →
      PStep c s i p ((Next.goto .expDone).apply { s with curCh := some n, mig := none } i p)
  | mig (o n : Nat) (co cn : Chan) (r : Row) (rest : List Row) : s.mig = some (i, some o, n) → o ≠ n →
      s.chans[o]? = some co → s.chans[n]? = some cn → co.buf = r :: rest →
      PStep c s i p
        { s with chans := (s.chans.set o { co with buf := rest }).set n { cn with buf := cn.buf ++ [r] } }

theorem PStep.plain {c : Cfg} {s : State} {i : Nat} {p : Prod} {nx : Next} (hne : p.pc ≠ .expMig)
    (hnx : NxOk c s i nx) : PStep c s i p (nx.apply s i p) :=
  .move s.expanding nx hne (fun _ _ h => h) hnx

inductive Kind (c : Cfg) (s : State) : State → Prop
  | prod {i : Nat} {p : Prod} {s' : State} : s.prods[i]? = some p → PStep c s i p s' → Kind c s s'
  | recv (h : Nat) (ch : Chan) (r : Row) (rest : List Row) : s.cons = .cHold h → s.chans[h]? = some ch →
      ch.buf = r :: rest →
      Kind c s { s with chans := s.chans.set h { ch with buf := rest }, processed := s.processed ++ [r],
                        cons := .cRead }
  /-- control state of the consumer or Stop only. The core reads these fields, so the successor's
  core is carried (proved in `step_kind`); Stop may set the reference to nil, outside a migration -/
  | ctl (cons : CPC) (stopPc : SPC) (stopped done : Bool) (curCh : Option Nat) :
      (curCh = s.curCh ∨ curCh = none ∧ s.mig = none) →
      GCore c { s with cons := cons, stopPc := stopPc, stopped := stopped, done := done, curCh := curCh } →
      Kind c s { s with cons := cons, stopPc := stopPc, stopped := stopped, done := done, curCh := curCh }

section
variable {c : Cfg} {s : State} {i : Nat} {p : Prod}

theorem pushTo_kind {h : Nat} (hne : p.pc ≠ .expMig) (hm : s.mig = none)
    (hcur : ∀ h', s.curCh = some h' → h' = h) : Post (PStep c s i p) (pushTo s i p h) := by
  unfold pushTo
  cases hch : s.chans[h]? with
  | none => exact .none
  | some ch => exact .some (.push h ch hne hm hcur hch)

/-- `done` wins the `select`: Emit returns, which is in order because `done` is closed after the flag is set -/
theorem done_kind (hne : p.pc ≠ .expMig) (core : GCore c s) :
    Post (PStep c s i p) (if s.done then some (Next.exit.apply s i p) else none) :=
  .ite (fun hd => .some (.plain hne (core.done_stopped hd))) fun _ => .none

theorem cachedSend_kind {h : Nat} (hne : p.pc ≠ .expMig) (core : GCore c s)
    (hstrat : c.strat ≠ .expand) (hh : h = 0) :
    Post (PStep c s i p) (if room s h then pushTo s i p h else none) :=
  have hc := core.noExpansion hstrat
  .ite (fun _ => pushTo_kind hne hc.1 fun h' e => (hc.2 h' e).trans hh.symm) fun _ => .none

theorem migOne_kind {o n : Nat} (hm : s.mig = some (i, some o, n)) :
    Post (PStep c s i p) (migOne s o n) := by
  unfold migOne
  refine .ite (fun _ => .none) fun hon => ?_
  cases hco : s.chans[o]? with
  | none => exact .none
  | some co =>
    cases hcn : s.chans[n]? with
    | none => exact .none
    | some cn =>
      cases hb : co.buf with
      | nil =>
        simp only [hb]
        exact .none
      | cons r rest =>
        simp only [hb]
        exact .ite (fun _ => .some (.mig o n co cn r rest hm hon hco hcn hb)) fun _ => .none

theorem stepPc_kind (w : Wit) (hinv : Inv c s)
    (hp : s.prods[i]? = some p) : Post (PStep c s i p) (stepPc c s i p w p.pc) := by
  -- what `PcOk` says at the parked program counter is what the constructor for the step taken asks for
  have hk := (hinv.p i p hp).hpc
  have core := hinv.core
  by_cases hne : p.pc = .expMig
  · rw [hne] at hk ⊢
    obtain ⟨hstrat, hexp, o, n, hm⟩ := hk
    simp only [stepPc, doExpMig, hm, if_true, migStep]
    refine .ite (fun he => .some (.swap o n hm he hstrat hexp)) fun _ => ?_
    cases o with
    | none => exact .none
    | some o' => exact migOne_kind hm
  -- the guard passes from `i` to nobody
  have release : c.strat = .expand ∧ s.expanding = some i →
      PStep c s i p ((trySend c s 1).apply { s with expanding := none } i p) := fun h =>
    .move none _ hne (fun j hj hj' => absurd (Option.some.inj (h.2.symm.trans hj')) hj.symm)
      (nxOk_trySend s (.inr h.1))
  generalize hpc : p.pc = pc at hk ⊢
  cases pc with
  | expMig => exact absurd hpc hne
  | idle => exact .some (.emit hpc)
  | sendLock att =>
    refine .ite (fun hg => ?_) fun _ => .none
    cases hc : s.curCh with
    | none => exact .some (.plain hne (nxOk_afterFail hk))
    | some h => exact .some (.plain hne ⟨⟨rGuard_mig hg, hk⟩, nofun⟩)
  | sendSend att =>
    dsimp only [stepPc, doSendSend]
    cases hc : s.curCh with
    | none => exact .some (.plain hne (nxOk_afterFail hk.2))
    | some h =>
      exact .ite (fun _ => pushTo_kind hne hk.1 fun h' e => Option.some.inj (e.symm.trans hc))
        fun _ => .some (.plain hne (nxOk_afterFail hk.2))
  | expEnter =>
    refine .ite (fun _ => .some (.plain hne (nxOk_trySend s (.inr hk)))) fun he => .some ?_
    exact .move (some i) _ hne (fun j _ h => by simp [h] at he) ⟨⟨hk, rfl⟩, nofun⟩
  | expRead =>
    refine .ite (fun hg => ?_) fun _ => .none
    cases hdec : expandDecision c (curCap s) (curLen s) with
    | none => exact .some (release hk)
    | some n =>
      exact .some (.plain hne ⟨⟨hk.1, hk.2, (expandDecision_some hdec).2,
        core.decided (rGuard_mig hg) hdec⟩, nofun⟩)
  | expWLock n => exact .ite (fun hg => .some (.lock n hg hk)) fun _ => .none
  | expDone =>
    exact .some (release hk)
  | expRetry k =>
    cases w
    case done => exact done_kind hne core
    all_goals exact .some (.plain hne (nxOk_trySend s (.inr hk)))
  | dropGet | blockGet =>
    have hk : c.strat = _ := hk
    refine .ite (fun hg => ?_) fun _ => .none
    cases hc : s.curCh with
    | none => exact .some (.plain hne (core.nil_stopped hc))
    | some h => exact .some (.plain hne ⟨⟨hk, (core.noExpansion (by simp [hk])).2 h hc⟩, nofun⟩)
  | dropRetry k h =>
    cases w
    case send => exact cachedSend_kind hne core (by simp [hk.1]) hk.2
    case done => exact done_kind hne core
    all_goals exact .some (.plain hne (nxOk_dropTimer k hk.1 hk.2))
  | blockSend h =>
    cases w
    case send => exact cachedSend_kind hne core (by simp [hk.1]) hk.2
    case done => exact done_kind hne core
    case timer => exact .ite (fun ht => .some (.plain hne fun hb => by simp [ht] at hb)) fun _ => .none
    all_goals exact .none

end

theorem step_kind {c : Cfg} {s : State} (t : Tid) (w : Wit) (hinv : Inv c s) : Post (Kind c s) (step c s t w) := by
  have core := hinv.core
  cases t with
  | prod i =>
    dsimp only [step, stepProd]
    cases hp : s.prods[i]? with
    | none => exact .none
    | some p => exact fun s' hs => .prod hp (stepPc_kind w hinv hp s' hs)
  | cons =>
    dsimp only [step, stepCons]
    -- a consumer outside `cHold` promises nothing
    have leave : ∀ pc, (∀ h, pc ≠ .cHold h) → Kind c s { s with cons := pc } := fun pc hpc =>
      .ctl pc _ _ _ _ (.inl rfl) { core with hold := fun _ h hh => absurd hh (hpc h) }
    cases hcs : s.cons with
    | cRead =>
      refine .ite (fun hg => ?_) fun _ => .none
      split
      · exact .some (leave .cExit nofun)
      · rename_i h hc
        exact .some (.ctl (.cHold h) _ _ _ _ (.inl rfl)
          { core with hold := fun _ h' hh => CPC.cHold.inj hh ▸ ⟨rGuard_mig hg, hc⟩ })
    | cHold h =>
      cases w
      case recv =>
        dsimp only [doConsHold, recvFrom]
        cases hch : s.chans[h]? with
        | none => exact .none
        | some ch =>
          cases hb : ch.buf with
          | nil =>
            simp only [hb]
            exact .none
          | cons r rest =>
            simp only [hb]
            exact .some (.recv h ch r rest hcs hch hb)
      case done => exact .ite (fun _ => .some (leave .cExit nofun)) fun _ => .none
      case tick => exact .some (leave .cRead nofun)
      all_goals exact .none
    | cExit => exact .none
  | stop =>
    dsimp only [step, stepStop]
    cases hpc : s.stopPc with
    | sIdle =>
      refine .ite (fun hst => .some ?_) fun _ => .some ?_
      · exact .ctl _ .sRet _ _ _ (.inl rfl) { core with stopping := fun _ => hst }
      · exact .ctl _ .sFlag true _ _ (.inl rfl)
          { core with flags := ⟨fun _ => rfl, fun _ => rfl, fun _ => rfl⟩, others := fun _ _ _ _ => .inl rfl,
                      stopping := fun _ => rfl }
    | sFlag =>
      have hst : s.stopped = true := core.stopping (by simp [hpc])
      exact .some (.ctl _ .sDone _ true _ (.inl rfl)
        { core with flags := ⟨fun _ => hst, core.nil_stopped, core.exits_stopped⟩, stopping := fun _ => hst })
    | sDone =>
      have hst : s.stopped = true := core.stopping (by simp [hpc])
      refine .ite (fun hg => .some ?_) fun _ => .none
      obtain ⟨hm, _, hcons⟩ := wGuard_facts hg
      exact .ctl _ .sNil _ _ none (.inr ⟨rfl, hm⟩)
        { core with migShape := fun j o n hmm => nomatch hm.symm.trans hmm
                    curLast := fun _ _ hh => by cases hh
                    flags := ⟨core.done_stopped, fun _ => hst, core.exits_stopped⟩
                    hold := fun hcl h hh => absurd hh (hcons hcl h)
                    others := fun _ _ _ _ => .inl hst
                    stopping := fun _ => hst }
    | sNil =>
      have hst : s.stopped = true := core.stopping (by simp [hpc])
      exact .some (.ctl _ .sWait _ _ _ (.inl rfl) { core with stopping := fun _ => hst })
    | sWait | sRet => exact .none

theorem inv_pstep {c : Cfg} {s s' : State} {i : Nat} {p : Prod} (hinv : Inv c s) (hp : s.prods[i]? = some p)
    (k : PStep c s i p s') : Inv c s' := by
  have hP := hinv.p i p hp
  have core := hinv.core
  -- the write lock, if held, is held by somebody else, who is parked in the migration
  have owner_parked : p.pc ≠ .expMig → ∀ (q : Prod) j o n, s.mig = some (j, o, n) →
      (j = i → q.pc = .expMig) ∧ (j ≠ i → ∃ pp, s.prods[j]? = some pp ∧ pp.pc = .expMig) :=
    fun hne q j o n hm => ⟨fun hji => absurd (hji ▸ hm) (hinv.not_owner hp hne o n), fun _ => hinv.own j o n hm⟩
  cases k with
  | move e nx hne hexp hnx =>
    -- the core does not read `expanding`: each field holds as it stands
    exact inv_apply hinv rfl { core with } hp hP.hid hP.hcur
      (fun j _ hji _ h => pcOk_frame h (hexp j hji) (fun _ h => h) (fun o n h => ⟨o, n, h⟩) fun _ _ h => h)
      hnx (owner_parked hne _)
  | emit hpc =>
    refine inv_apply (s0 := { s with input := s.input + 1 }) (p := emitted p) hinv rfl { core with } hp hP.hid ?_
      (fun _ _ _ _ h => pcOk_congr h rfl rfl rfl) (nxOk_emitNext i rfl) (owner_parked (by simp [hpc]) _)
    intro r hr
    cases hr
    exact ⟨hP.hid ▸ rfl, Nat.succ_pos _⟩
  | push h ch hne hm hcur hch =>
    have hcaps : (s.chans.set h { ch with buf := ch.buf ++ p.cur.toList }).map (·.cap) = s.chans.map (·.cap) :=
      map_cap_set _ hch rfl
    refine inv_set ?_ rfl hp rfl rfl hcaps ⟨hP.hid, nofun, trivial⟩
      (fun j q _ hq => hinv.p j q hq) (owner_parked hne _)
    refine GCore.chans core _ _ hcaps (others_set core.others _ hch fun _ => ?_)
    cases hc : s.curCh with
    | none => exact .inl (core.nil_stopped hc)
    | some h' => exact .inr (.inl (by rw [hcur h' hc]))
  | lock n hg hk =>
    obtain ⟨hm, hrd, hcons⟩ := wGuard_facts hg
    obtain ⟨hstrat, hexp, hmaxn, hcapn⟩ := hk
    -- capacities from `hcapn` (`n` exceeds all so far) and `hmaxn`; lock and reference from the write guard
    have hcore0 : GCore c { s with chans := s.chans ++ [{ cap := n, buf := [] }],
                                   mig := some (i, s.curCh, s.chans.length) } :=
      { core with
        migShape := by
          intro j o n' hmm
          cases hmm
          exact ⟨rfl, by simp, fun o' ho' => core.curLast hm o' ho' ▸ Nat.lt_succ_self o', hstrat⟩
        curLast := nofun
        single := fun hne => absurd hstrat hne
        hold := fun hcl h hh => absurd hh (hcons hcl h)
        others := by
          intro h ch hh hne
          rcases Nat.lt_or_ge h s.chans.length with hlt | hge
          · rw [List.getElem?_append_left hlt] at hh
            rcases core.others h ch hh hne with h1 | h1 | ⟨j, o, h1⟩
            · exact .inl h1
            · exact .inr (.inl h1)
            · rw [hm] at h1
              cases h1
          · rw [List.getElem?_append_right hge] at hh
            obtain ⟨_, rfl⟩ := List.getElem?_eq_some_iff.mp hh
            exact absurd (by simp) hne
        capsInc := by
          simp only [List.map_append, List.map_cons, List.map_nil]
          exact List.pairwise_append.mpr ⟨core.capsInc, List.pairwise_singleton _ _,
            fun a ha b hb => List.mem_singleton.mp hb ▸ List.forall_mem_map (P := (· < n)).mpr hcapn a ha⟩
        capsMax := fun hmx => List.forall_mem_append.mpr ⟨core.capsMax hmx,
          List.forall_mem_singleton.mpr (Nat.le_trans (hmaxn hmx) (Nat.le_max_left _ _))⟩
        capsMin := by
          obtain ⟨x, hx⟩ := List.exists_mem_of_length_pos core.nonempty
          exact List.forall_mem_append.mpr ⟨core.capsMin,
            List.forall_mem_singleton.mpr (Nat.le_trans (core.capsMin x hx) (Nat.le_of_lt (hcapn x hx)))⟩
        nonempty := by simp }
    refine inv_apply (nx := .goto .expMig) hinv rfl hcore0 hp hP.hid hP.hcur (fun j q hji hq h => ?_)
      ⟨⟨hstrat, hexp, _, _, rfl⟩, nofun⟩ ?_
    · refine pcOk_frame h (fun h => h) (fun hr _ => ?_) ?_ fun he => ?_
      · rw [hrd q (List.mem_of_getElem? hq)] at hr
        cases hr
      · intro o n' hmm
        rw [hm] at hmm
        cases hmm
      · exact absurd (Option.some.inj (hexp.symm.trans he)).symm hji
    · intro j o n' hmm
      cases hmm
      exact ⟨fun _ => rfl, fun h => absurd rfl h⟩
  | swap o n hm hempty hstrat hexp =>
    obtain ⟨hcurO, hnlen, _, _⟩ := core.migShape i o n hm
    have hcore0 : GCore c { s with curCh := some n, mig := none } :=
      { core with
        migShape := nofun
        curLast := fun _ h hh => Option.some.inj hh ▸ hnlen
        flags := ⟨core.done_stopped, nofun, core.exits_stopped⟩
        hold := fun hcl h hh => nomatch hm.symm.trans (core.hold hcl h hh).1
        others := by
          intro h ch hh hne
          rcases core.others h ch hh hne with h1 | h1 | ⟨j', o', h1⟩
          · exact .inl h1
          · -- the old channel is empty
            rw [hcurO] at h1
            subst h1
            simp [oldEmpty, hh] at hempty
            exact absurd hempty hne
          · rw [hm] at h1
            cases h1
            exact .inr (.inl rfl) }
    refine inv_apply (nx := .goto .expDone) hinv rfl hcore0 hp hP.hid hP.hcur (fun j q hji _ h => ?_)
      ⟨⟨hstrat, hexp⟩, nofun⟩ nofun
    refine pcOk_frame h (fun h => h) (fun _ _ => rfl) ?_ fun _ _ h => h
    intro o' n' hmm
    rw [hm] at hmm
    cases hmm
    exact absurd rfl hji
  | mig o n co cn r rest hm hon hco hcn hb =>
    have hcn' : (s.chans.set o { co with buf := rest })[n]? = some cn := (List.getElem?_set_ne hon).trans hcn
    have hcaps : ((s.chans.set o { co with buf := rest }).set n { cn with buf := cn.buf ++ [r] }).map (·.cap)
        = s.chans.map (·.cap) :=
      (map_cap_set { cn with buf := cn.buf ++ [r] } hcn' rfl).trans (map_cap_set _ hco rfl)
    refine Inv.frame hinv (GCore.chans core _ _ hcaps fun h ch hh hne => ?_) rfl rfl rfl hcaps
    by_cases hnh : h = n
    · exact .inr (.inr ⟨i, some o, hnh ▸ hm⟩)
    · rw [List.getElem?_set_ne (Ne.symm hnh)] at hh
      exact others_set core.others _ hco (fun _ => core.others o co hco (by simp [hb])) h ch hh hne

theorem inv_kind {c : Cfg} {s s' : State} (hinv : Inv c s) (k : Kind c s s') : Inv c s' := by
  cases k with
  | prod hp k => exact inv_pstep hinv hp k
  | recv h ch r rest hcs hch hb =>
    have hcaps : (s.chans.set h { ch with buf := rest }).map (·.cap) = s.chans.map (·.cap) :=
      map_cap_set _ hch rfl
    have base := GCore.chans hinv.core s.prods (s.processed ++ [r]) hcaps
      (others_set hinv.core.others _ hch fun _ => hinv.core.others h ch hch (by simp [hb]))
    exact Inv.frame hinv { base with hold := nofun } rfl rfl rfl hcaps
  | ctl cons stopPc stopped done curCh _ hcore => exact Inv.frame hinv hcore rfl rfl rfl rfl

theorem inv_step (c : Cfg) (s s' : State) (t : Tid) (w : Wit) (hinv : Inv c s) (hs : step c s t w = some s') :
    Inv c s' :=
  inv_kind hinv (step_kind t w hinv s' hs)

theorem inv_init (c : Cfg) (n : Nat) : Inv c (init c n) where
  core := {
    migShape := nofun
    curLast := fun _ h hh => Option.some.inj hh ▸ rfl
    single := fun _ => rfl
    flags := ⟨nofun, nofun, fun h => absurd rfl h⟩
    hold := nofun
    others := by
      intro h ch hh hne
      obtain ⟨_, rfl⟩ := List.getElem?_eq_some_iff.mp hh
      cases h with
      | zero => exact absurd rfl hne
      | succ k => contradiction
    capsInc := List.pairwise_singleton _ _
    capsMax := fun _ => List.forall_mem_singleton.mpr (Nat.le_max_right _ _)
    capsMin := List.forall_mem_singleton.mpr (Nat.le_refl _)
    noDrop := fun _ _ => rfl
    nonempty := Nat.one_pos
    stopping := fun h => absurd rfl h }
  own := nofun
  p := by
    intro j q hq
    obtain ⟨hj, rfl⟩ := List.getElem?_eq_some_iff.mp hq
    rw [show (init c n).prods[j] = ⟨j, .idle, 0, none⟩ by simp [init]]
    exact ⟨rfl, nofun, trivial⟩

theorem CI.kind {c : Cfg} {s s' : State} (hc : CI s) (k : Kind c s s') : CI s' := by
  cases k with
  | @prod i p _ hp k =>
    cases k with
    | move e nx _ _ hnx => exact CI.apply hc hp hnx.nonIdle rfl (fun _ => rfl) (fun _ => rfl) rfl
    | emit hpc =>
      refine CI.apply hc hp (nxOk_emitNext (c := c) (s := s) (s0 := s) i rfl).nonIdle rfl (fun _ => rfl) (fun r => ?_)
        (Nat.add_right_comm ..)
      have hfly : flyRows p = [] := by
        rw [flyRows, hc.idle p (List.mem_of_getElem? hp) hpc]
        rfl
      rw [entRows_emitted, List.count_append, hfly, List.count_nil, Nat.zero_add]
      exact Nat.add_comm ..
    | push h ch _ _ _ hch => exact CI.push hc hp hch
    | lock n => exact CI.apply hc hp nofun rfl (settled_alloc s n _) (fun _ => rfl) rfl
    | swap o n => exact CI.apply hc hp nofun rfl (fun _ => rfl) (fun _ => rfl) rfl
    | mig o n co cn r rest _ hon hco hcn hb => exact CI.mig hc hon hco hcn hb
  | recv h ch r rest _ hch hb => exact CI.recv hc hch hb
  | ctl => exact hc.keep rfl rfl fun _ => rfl

end Ingest
