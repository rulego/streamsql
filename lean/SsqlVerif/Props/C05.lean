/-
C05 — Non-aggregate queries are a stateless, ordered, row-wise filter and projection.

`Pipe.*` models the Go code at string level, `PipeSpec.*` is the declarative reading (a list of items, a
structural walk, one column per item).  Trusted: `toConfig` is the front end's output for such a list
(correspondence check).  Left out: WHERE is an arbitrary predicate on the row (C06/C12 evaluate predicates).
-/
import SsqlVerif.Proofs.PipeDirect
import SsqlVerif.Proofs.PipeDeliver
import SsqlVerif.Generated.Facts
set_option autoImplicit false

namespace C05
open Pipe PipeSpec

/-- **Field-path lookup is the structural walk.**  For every datum and every path of well-formed
components (identifier names, subscripts `[i]` with `i` any Go `int`, negative included, and `['k']`),
`fieldpath.GetNestedField` on the path's text — split on dots, bracket loop, `Atoi`, quote stripping —
finds exactly what walking the components finds, and never panics. -/
theorem fieldpath_eq_structural (data : Value) (f : Comp) (r : List Comp)
    (hf : compWF f = true) (hr : r.all compWF = true) :
    getNestedField data (renderPath f r) = .ok (walkComps data (f :: r)) :=
  getNestedField_render data f r hf hr

example : getNestedField (.map [(['a'], .list [.int 1, .map [(['k'], .str ['v'])]])])
    (renderPath ⟨['a'], [.idx (-1), .key ['k']]⟩ []) = .ok (some (.str ['v'])) := by rfl
example : compWF ⟨['a'], [.idx (-1), .key ['k']]⟩ = true := by decide

/-- the model's bracket loop never stops for lack of fuel (so the fuel is not a bound on inputs) -/
theorem bracket_loop_fuel_irrelevant (k : Nat) (rem : Str) (acc : List Part) :
    bracketLoop (rem.length + k) rem acc = bracketLoop rem.length rem acc := by
  induction k with
  | zero => rfl
  | succ k ih => rw [← Nat.add_assoc, bracketLoop_fuel_succ _ rem acc (Nat.le_add_right _ _), ih]

/-- **Row-wise filter + projection (`EmitSync`).**  For every non-empty well-formed SELECT list with pairwise
distinct output names, every WHERE predicate, every row (a Go map: distinct keys): the row is filtered iff
WHERE is not true; otherwise a result is returned whose columns are exactly the selected ones, each once
(a permutation of the spec's column list — a Go map has no order), a missing source being NULL; the code
path never panics.  There is no state argument anywhere: the result is a function of (query, row).
(For an empty list the code copies the whole row, as for `*`; hence `hne`.) -/
theorem direct_eq_spec (env : Env) (items : List Item) (row : Row)
    (hne : items ≠ []) (hwf : itemsWF items = true) (hnd : (items.map outName).Nodup)
    (hrow : (keysOf row).Nodup) :
    match directSpec (passesWhere env) items row with
    | none => directSync (toConfig items) env row = .filtered
    | some cols => ∃ r, directSync (toConfig items) env row = .result r ∧ r.Perm cols := by
  unfold directSpec directSync
  cases passesWhere env row with
  | false => rfl
  | true =>
    unfold selectedColumns
    cases hstar : isStarOnly items with
    | true =>
      rw [toConfig_star items hstar, projectDirectRow_star env row hrow]
      exact ⟨row, rfl, List.Perm.refl _⟩
    | false =>
      rw [itemsWF, hstar] at hwf
      rw [projectDirectRow_items env items row hne hstar (List.all_eq_true.mp hwf) hnd]
      exact ⟨_, rfl, litSplit_map_perm _ items⟩

/-! a concrete query with alias, nested path, missing source, literal containing `:` -/
def exItems : List Item :=
  [ { src := .path ⟨['a'], []⟩ [⟨['b'], [.idx 0]⟩], alias := some ['x'] },
    { src := .path ⟨['z'], []⟩ [] },
    { src := .lit ['i', ':', 'q'] } ]
def exRow : Row := [(['a'], .map [(['b'], .list [.int 7])]), (['i'], .int 5)]
def exEnv (p : Option (Row → Bool)) : Env := { whereP := p, exprEval := fun _ _ => .null, unnest := fun r => [r], sortRows := id }
example : itemsWF exItems = true := by decide +kernel
example : directSpec (fun _ => true) exItems exRow =
    some [(['x'], .int 7), (['z'], .null), (['i', ':', 'q'], .str ['i', ':', 'q'])] := by rfl
example : (match directSync (toConfig exItems) (exEnv none) exRow with
    | .result r => r.length == 3 && (lookupKey ['x'] r).isSome | _ => false) = true := by decide +kernel
example : (match directSync (toConfig exItems) (exEnv (some fun _ => false)) exRow with
    | .filtered => true | _ => false) = true := by decide +kernel

/-- `Execute` accepts every well-formed list with pairwise distinct output names (the collision check of
`compileOutputNames` does not fire) … -/
theorem execute_accepts_distinct_names (items : List Item)
    (hwf : itemsWF items = true) (hnd : (items.map outName).Nodup) :
    checkOutputNames (toConfig items) = .ok () := by
  cases hstar : isStarOnly items with
  | true =>
    rw [toConfig_star items hstar]
    rfl
  | false =>
    rw [itemsWF, hstar] at hwf
    exact checkOutputNames_items items hstar (List.all_eq_true.mp hwf) hnd

/-- … and rejects two ordinary columns with one name (so the error branch is not totalised away) -/
example : checkOutputNames (toConfig [ { src := .path ⟨['a'], []⟩ [], alias := some ['x'] },
    { src := .path ⟨['b'], []⟩ [], alias := some ['x'] } ]) = .error ['x'] := by rfl

/-- **Sync and async paths agree.**  Without an unnest call the asynchronous pipeline (`Emit` →
`processDirectData`) sends exactly one one-row batch holding the row `EmitSync` returns, or nothing when
`EmitSync` returns nothing — for every configuration, every WHERE, every expression evaluator, with or
without ORDER BY. -/
theorem sync_async_same (cfg : Config) (env : Env) (row : Row) (hu : cfg.hasUnnest = false) :
    directAsync cfg env row =
      match directSync cfg env row with
      | .result r => [[r]]
      | .filtered => []
      | .panic => [] := by
  unfold directAsync directSync
  cases passesWhere env row with
  | false => rfl
  | true =>
    cases projectDirectRow cfg env row with
    | error e => rfl
    | ok r => simp [expandUnnest, hu, applyOrderBy]

example : directAsync (toConfig exItems) (exEnv none) exRow ≠ [] := by decide +kernel

/-- **Single-producer order.**  In every state reachable by any interleaving of producer (`Emit`),
consumer goroutine and channel reader:
* the input queue is FIFO: accepted rows = consumed rows followed by the queued ones, and the accepted
  rows are a subsequence of the emitted ones;
* the synchronous sinks have been invoked, batch by batch, in registration order, with exactly the
  results of the consumed rows in consumption order (each row's result computed from that row alone);
* what the channel's reader has received followed by what the channel still holds is a subsequence of
  those same results: drop-on-full removes batches but never reorders or invents one;
* the channel never exceeds its capacity. -/
theorem single_producer_order (cfg : Config) (env : Env) (dc : DCfg) (ops : List DOp) :
    let s := drun cfg env dc {} ops
    s.accepted = s.processed ++ s.inQ ∧
    s.accepted.Sublist (emitted ops) ∧
    s.sinkLog = (resultsOf cfg env s.processed).flatMap (sinkCalls dc.nSinks) ∧
    (s.received ++ s.chan).Sublist (resultsOf cfg env s.processed) ∧
    s.chan.length ≤ dc.chanCap := by
  have hinv := inv_run cfg env dc {} ops (inv_init cfg env dc)
  exact ⟨hinv.fifo, accepted_sublist cfg env dc {} ops, hinv.sinks, hinv.chanOrder, hinv.chanCap⟩

/-- the third clause of `single_producer_order`, read per sink -/
theorem each_sink_sees_ordered_results (cfg : Config) (env : Env) (dc : DCfg) (ops : List DOp)
    (i : Nat) (hi : i < dc.nSinks) :
    sinkView i (drun cfg env dc {} ops).sinkLog = resultsOf cfg env (drun cfg env dc {} ops).processed := by
  rw [(single_producer_order cfg env dc ops).2.2.1]
  exact sinkView_flatMap dc.nSinks i hi _

/-- the result channel's overflow handling keeps order in isolation, too -/
theorem channel_send_never_reorders (cap : Nat) (dropOldest : Bool) (ch : List Batch) (b : Batch) :
    (chanSend cap dropOldest ch b).Sublist (ch ++ [b]) :=
  chanSend_sublist cap dropOldest ch b

/-! channel capacity 1: the sink sees all, the channel the last; input capacity 1 drops an `emit` -/
def exOps : List DOp := [.emit exRow, .emit exRow, .consume true, .emit [], .consume true, .consume true, .recv]
example : (drun (toConfig exItems) (exEnv none) ⟨10, 1, 2⟩ {} exOps).sinkLog.length = 6 := by decide +kernel
example : (drun (toConfig exItems) (exEnv none) ⟨10, 1, 2⟩ {} exOps).received.length = 1 := by decide +kernel
example : (drun (toConfig exItems) (exEnv none) ⟨1, 1, 2⟩ {} exOps).accepted.length = 2 := by decide +kernel

end C05

/-! tie to the source (`Generated/Facts.lean` holds the literals of the Go functions): the separator /
quote bytes the field-path parser, the nested-field test and the field-spec compiler look for, and the
default channel sizes -/
theorem C05.facts_pipeline :
    Facts.utils_fieldpath_ParseFieldPath_strlits = ["", ".", "", "[", "field"] ∧
    Facts.utils_fieldpath_parseComplexPart_strlits.take 5 = ["[", "field", "field", "[", "]"] ∧
    Facts.utils_fieldpath_parseBracketContent_strlits.take 4 = ["'", "'", "\"", "\""] ∧
    Facts.utils_fieldpath_IsNestedField_strlits = [".", "["] ∧
    Facts.stream_Stream_compileSimpleFieldInfo_strlits =
      ["*", "", "*", "*", "'", "\"", "`", ":", "`", "`", "`", "`", "(", ")", "'", "'", "\"", "\""] ∧
    Facts.types_DefaultPerformanceConfig_intlits.take 2 = [1000, 100] := ⟨rfl, rfl, rfl, rfl, rfl, rfl⟩
