/-
C14 at the level of a query.  A field's engine runs on encoded partition strings; re-keying by the
injective encoding and the field's machine (all calls, then the wrapper) give `Spec.fieldFn` over the
typed-key partitions.  The oracle's cap flags are `withinCap` of every prefix; fields do not interfere.
-/
import SsqlVerif.Proofs.AnalyticEngine
import SsqlVerif.Proofs.AnalyticKey
import SsqlVerif.Model.AnalyticQuery
import SsqlVerif.Spec.AnalyticQuery
set_option autoImplicit false

namespace Analytic
open Spec

section rekey
variable {K K' α β : Type} [DecidableEq K] [DecidableEq K']

def reKey (g : K → K') (r : FRow K α) : FRow K' α := { key := g r.key, live := r.live, arg := r.arg }

theorem partRows_reKey (g : K → K') (hg : ∀ a b, g a = g b → a = b) (k : K) (rows : List (FRow K α)) :
    partRows (g k) (rows.map (reKey g)) = (partRows k rows).map (reKey g) := by
  unfold partRows
  rw [List.filter_map]
  exact congrArg _ (List.filter_congr fun r _ => decide_eq_decide.2 ⟨hg _ _, congrArg g⟩)

omit [DecidableEq K] [DecidableEq K'] in
theorem liveArgs_reKey (g : K → K') (rows : List (FRow K α)) :
    liveArgs (rows.map (reKey g)) = liveArgs rows := by
  unfold liveArgs
  rw [List.filter_map, List.map_map]
  rfl

omit [DecidableEq K] [DecidableEq K'] in
theorem liveKeys_reKey (g : K → K') (rows : List (FRow K α)) :
    liveKeys (rows.map (reKey g)) = (liveKeys rows).map g := by
  unfold liveKeys
  rw [List.filter_map, List.map_map, List.map_map]
  rfl

/-- the specification only looks at key equality: an injective re-encoding of the keys changes nothing -/
theorem fieldSpecFrom_reKey (f : List α → α → β) (g : K → K') (hg : ∀ a b, g a = g b → a = b)
    (rows hist : List (FRow K α)) :
    fieldSpecFrom f (hist.map (reKey g)) (rows.map (reKey g)) = fieldSpecFrom f hist rows := by
  induction rows generalizing hist with
  | nil => rfl
  | cons r rs ih =>
    have := ih (hist ++ [r])
    rw [List.map_append] at this
    rw [List.map_cons, fieldSpecFrom, fieldSpecFrom, ← this]
    show gated f (partRows (g r.key) (hist.map (reKey g))) (reKey g r) :: _ = _
    rw [partRows_reKey g hg, gated, gated, liveArgs_reKey]
    rfl

theorem distinct_map_length (g : K → K') (hg : ∀ a b, g a = g b → a = b) (l : List K) :
    (distinct (l.map g)).length = (distinct l).length := by
  induction l with
  | nil => rfl
  | cons x xs ih =>
    have hmem : g x ∈ xs.map g ↔ x ∈ xs := by
      refine ⟨fun h => ?_, List.mem_map_of_mem⟩
      obtain ⟨y, hy, hxy⟩ := List.mem_map.1 h
      exact hg _ _ hxy ▸ hy
    rw [List.map_cons, distinct, distinct]
    by_cases hx : x ∈ xs
    · rw [if_pos hx, if_pos (hmem.2 hx), ih]
    · rw [if_neg hx, if_neg (mt hmem.1 hx), List.length_cons, List.length_cons, ih]

theorem withinCap_reKey (cap : Nat) (g : K → K') (hg : ∀ a b, g a = g b → a = b) (rows : List (FRow K α)) :
    withinCap cap (rows.map (reKey g)) = withinCap cap rows := by
  unfold withinCap
  rw [liveKeys_reKey, distinct_map_length g hg]

end rekey

section compose
variable {ν : Type} [NumOps ν]

/-- state of a call after the rows `hist` of its partition -/
def callStateOf (c : Call ν) (hist : List (Row ν)) : CallSt ν :=
  match c with
  | .lag col off d ign =>
    .lag ((lagMachine (lagK off) (ign.getD true)).run (lagMachine (lagK off) (ign.getD true)).init (hist.map (lagIn col d)))
  | .latest col d => .latest (latestMachine.run latestMachine.init (hist.map (lagIn col d)))
  | .hadChanged ign cols =>
    .hc ((hadChangedMachine ign).run (hadChangedMachine ign).init (hist.map (fun h => cols.map h.val)))
  | .changedCol ign col =>
    .chg ((changedColMachine ign).run (changedColMachine ign).init (hist.map (fun h => h.val col)))
  | .changedCols ign cols =>
    .cols ((changedColsMachine ign).run (changedColsMachine ign).init (hist.map (fun h => cols.map h.val)))
  | .acc kind col start reset =>
    .acc ((accMachine kind start.isSome reset.isSome).run (accMachine kind start.isSome reset.isSome).init
      (hist.map (accIn col start reset)))

theorem callInit_eq (c : Call ν) : callInit c = callStateOf c [] := by
  cases c <;> rfl

theorem lagK_pos (off : Option Int) : 1 ≤ lagK off := by
  cases off with
  | none => exact Nat.le_refl 1
  | some n => exact effOffset_pos n

theorem callStep_stateOf (c : Call ν) (hist : List (Row ν)) (r : Row ν) :
    callStep c (callStateOf c hist) r = (callStateOf c (hist ++ [r]), callFn c hist r) := by
  cases c with
  | lag col off d ign => exact Machine.step_run_wrap _ (lag_out _ (lagK_pos off) ..) CallSt.lag COut.one
  | latest col d => exact Machine.step_run_wrap _ (latest_out ..) CallSt.latest COut.one
  | hadChanged ign cols =>
    exact Machine.step_run_wrap _
      (hadChanged_out ign cols.length _ _ length_of_mem_map (List.length_map _)) CallSt.hc
      (fun b => COut.one (Val.bool b))
  | changedCol ign col => exact Machine.step_run_wrap _ (changedCol_out ..) CallSt.chg COut.one
  | changedCols ign cols =>
    exact Machine.step_run_wrap _
      (changedCols_out ign cols.length _ _ length_of_mem_map (List.length_map _)) CallSt.cols COut.many
  | acc kind col start reset => exact Machine.step_run_wrap _ (acc_out ..) CallSt.acc COut.one

theorem callsStep_stateOf (calls : List (Call ν)) (hist : List (Row ν)) (r : Row ν) :
    callsStep calls (calls.map (fun c => callStateOf c hist)) r =
      (calls.map (fun c => callStateOf c (hist ++ [r])), calls.map (fun c => callFn c hist r)) := by
  induction calls with
  | nil => rfl
  | cons c cs ih =>
    rw [List.map_cons, callsStep, callStep_stateOf, ih]
    rfl

theorem fieldMachine_state (f : Field ν) (hist : List (Row ν)) :
    (fieldMachine f).run (fieldMachine f).init hist = f.calls.map (fun c => callStateOf c hist) :=
  Machine.run_eq _ (fun h => f.calls.map (fun c => callStateOf c h))
    (List.map_congr_left fun c _ => (callInit_eq c).symm)
    (fun h a => congrArg Prod.fst (callsStep_stateOf f.calls h a)) hist

theorem fieldMachine_out (f : Field ν) (hist : List (Row ν)) (r : Row ν) :
    (fieldMachine f).out hist r = fieldFn f hist r := by
  unfold Machine.out
  rw [fieldMachine_state]
  exact congrArg (fun p => applyWrap f.wrap r p.2) (callsStep_stateOf f.calls hist r)

/-- the rows as the model's engine sees them: encoded partition key, WHEN, the row -/
def modelRows (f : Field ν) (rows : List (Row ν)) : List (FRow (List Char) (Row ν)) :=
  rows.map (fun r => { key := fieldKey f r, live := fieldLive f r, arg := r })

theorem modelRows_eq (f : Field ν) (rows : List (Row ν)) :
    modelRows f rows = (fieldRows f rows).map (reKey partitionKey) := by
  rw [fieldRows, List.map_map]
  rfl

end compose

section capflags
variable {ν : Type}

/-- `keys` lists the members of `l`, each once -/
def Enumerates {K : Type} (keys l : List K) : Prop := keys.Nodup ∧ ∀ k, k ∈ keys ↔ k ∈ l

theorem Enumerates.length {K : Type} [DecidableEq K] {keys l : List K} (h : Enumerates keys l) :
    keys.length = (distinct l).length :=
  Nat.le_antisymm
    (List.Nodup.length_le_of_subset h.1 fun k hk => (mem_distinct k l).2 ((h.2 k).1 hk))
    (List.Nodup.length_le_of_subset (nodup_distinct l) fun k hk => (h.2 k).2 ((mem_distinct k l).1 hk))

/-- for any lawful `BEq`: `capFlags` compares `List KVal` keys with the `BEq` of lists, not the one
derived from `DecidableEq` -/
theorem Enumerates.insert {K : Type} [BEq K] [LawfulBEq K] {keys l : List K} (h : Enumerates keys l)
    (b : Bool) (x : K) :
    Enumerates (if b && !keys.contains x then x :: keys else keys) (if b then l ++ [x] else l) := by
  cases b with
  | false => exact h
  | true =>
    by_cases hx : x ∈ keys
    · rw [if_neg (by simp [hx]), if_pos rfl]
      exact ⟨h.1, fun k => by
        rw [List.mem_append, List.mem_singleton, ← h.2 k]
        exact ⟨Or.inl, fun hk => hk.elim id (· ▸ hx)⟩⟩
    · rw [if_pos (by simp [hx]), if_pos rfl]
      exact ⟨List.nodup_cons.2 ⟨hx, h.1⟩, fun k => by
        rw [List.mem_cons, List.mem_append, List.mem_singleton, h.2 k, or_comm]⟩

theorem liveKeys_snoc {K α : Type} (pre : List (FRow K α)) (r : FRow K α) :
    liveKeys (pre ++ [r]) = if r.live then liveKeys pre ++ [r.key] else liveKeys pre := by
  unfold liveKeys
  cases h : r.live <;> simp [List.filter_append, h]

/-- the step function of `Spec.capFlags`: its lambda with the `let` expanded -/
def capStep (cap : Nat) (acc : List (List KVal) × List Bool) (r : FRow (List KVal) (Row ν)) :
    List (List KVal) × List Bool :=
  ((if r.live && !acc.1.contains r.key then r.key :: acc.1 else acc.1),
   decide ((if r.live && !acc.1.contains r.key then r.key :: acc.1 else acc.1).length ≤ cap) :: acc.2)

theorem capFlags_eq_foldl (cap : Nat) (rows : List (FRow (List KVal) (Row ν))) :
    capFlags cap rows = (rows.foldl (capStep cap) ([], [])).2.reverse := rfl

theorem capFold_spec (cap : Nat) (rows pre : List (FRow (List KVal) (Row ν))) (acc : List (List KVal) × List Bool)
    (h : Enumerates acc.1 (liveKeys pre)) :
    (rows.foldl (capStep cap) acc).2.reverse = acc.2.reverse ++ prefixFlags cap pre rows := by
  induction rows generalizing pre acc with
  | nil => exact (List.append_nil _).symm
  | cons r rs ih =>
    have h' := h.insert r.live r.key
    rw [← liveKeys_snoc] at h'
    refine (ih (pre ++ [r]) (capStep cap acc r) h').trans ?_
    show (_ :: acc.2).reverse ++ _ = _
    rw [List.reverse_cons, List.append_assoc, h'.length]
    rfl

end capflags

section columns
variable {ν : Type} [NumOps ν]

/-- `AnalyticEngine.Evaluate` runs field `i` on engine `i` -/
theorem evalAll_eq (cap : Nat) (fs : List (Field ν)) (es : List (FEng ν)) (r : Row ν) (h : fs.length = es.length) :
    evalAll cap fs es r = (List.zipWith (fun f e => (fieldEval cap f e r).1) fs es,
      List.zipWith (fun f e => (fieldEval cap f e r).2) fs es) := by
  induction fs generalizing es with
  | nil =>
    cases es with
    | nil => rfl
    | cons e es => exact absurd h (Nat.succ_ne_zero _).symm
  | cons f fs ih =>
    cases es with
    | nil => rfl
    | cons e es =>
      exact congrArg (fun p => ((fieldEval cap f e r).1 :: p.1, (fieldEval cap f e r).2 :: p.2))
        (ih es (Nat.succ.inj h))

theorem machine_column (q : Query ν) (i : Nat) (f : Field ν) (hf : q.allFields[i]? = some f)
    (rows : List (Row ν)) (es : List (FEng ν)) (e : FEng ν) (he : es[i]? = some e)
    (hlen : q.allFields.length = es.length) :
    (q.machine.outs es rows).map (fun o => o.getD i none) =
      engRun (effCap q.cap) (fieldMachine f) e (modelRows f rows) := by
  induction rows generalizing es e with
  | nil => rfl
  | cons r rs ih =>
    show (evalAll (effCap q.cap) q.allFields es r).2.getD i none ::
        List.map _ (q.machine.outs (evalAll (effCap q.cap) q.allFields es r).1 rs) =
      (fieldEval (effCap q.cap) f e r).2 ::
        engRun (effCap q.cap) (fieldMachine f) (fieldEval (effCap q.cap) f e r).1 (modelRows f rs)
    rw [evalAll_eq _ _ es r hlen,
      ih _ (fieldEval (effCap q.cap) f e r).1 (by rw [List.getElem?_zipWith, hf, he])
        (by rw [List.length_zipWith, ← hlen, Nat.min_self]),
      List.getD_eq_getElem?_getD, List.getElem?_zipWith, hf, he]
    rfl

theorem query_column (q : Query ν) (i : Nat) (f : Field ν) (hf : q.allFields[i]? = some f) (rows : List (Row ν)) :
    ((q.machine.outs q.machine.init rows).map (fun o => o.getD i none)) =
      engRun (effCap q.cap) (fieldMachine f) (Eng.empty : FEng ν) (modelRows f rows) := by
  refine machine_column q i f hf rows _ Eng.empty ?_ (List.length_map _).symm
  rw [Query.machine, List.getElem?_map, hf]
  rfl

end columns
end Analytic
