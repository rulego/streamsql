/-
ORDER BY: `compareOrderValues` (`cmpVal`) is a lawful three-way comparator on values of one kind,
so `Sorter.less` (`lessBy`) is a strict weak order on rows with homogeneous key columns.
-/
import SsqlVerif.Proofs.PostAggList
set_option autoImplicit false

namespace PostAgg

/-- `lt` is asymmetric and negatively transitive (neither `a < b` nor `b < c` gives not `a < c`):
exact arithmetic, binary64 without NaN -/
structure NumOrd {ν : Type} (N : Num ν) : Prop where
  asymm : ∀ a b, N.lt a b = true → N.lt b a = false
  ntrans : ∀ a b c, N.lt a b = false → N.lt b c = false → N.lt a c = false

/-- laws of a three-way comparator on the elements satisfying `S` -/
structure CmpOn {ρ : Type} (c : ρ → ρ → Ordering) (S : ρ → Prop) : Prop where
  swap : ∀ a b, S a → S b → c b a = (c a b).swap
  trans : ∀ a b d, S a → S b → S d → c a b ≠ .lt → c b d ≠ .lt → c a d ≠ .lt

namespace CmpOn
variable {ρ σ : Type} {c c₂ : ρ → ρ → Ordering} {S : ρ → Prop}

theorem of_transCmp (c : ρ → ρ → Ordering) [Std.TransCmp c] : CmpOn c (fun _ => True) where
  swap _ _ _ _ := Std.OrientedCmp.eq_swap
  trans _ _ _ _ _ _ h1 h2 :=
    Ordering.isGE_iff_ne_lt.mp
      (Std.TransCmp.isGE_trans (Ordering.isGE_iff_ne_lt.mpr h1) (Ordering.isGE_iff_ne_lt.mpr h2))

theorem of_key (h : CmpOn c S) (f : σ → ρ) {c' : σ → σ → Ordering} {T : σ → Prop}
    (hf : ∀ a, T a → S (f a)) (e : ∀ a b, T a → T b → c' a b = c (f a) (f b)) : CmpOn c' T where
  swap a b ha hb := by
    rw [e b a hb ha, e a b ha hb]
    exact h.swap _ _ (hf a ha) (hf b hb)
  trans a b d ha hb hd := by
    rw [e a b ha hb, e b d hb hd, e a d ha hd]
    exact h.trans _ _ _ (hf a ha) (hf b hb) (hf d hd)

theorem of_range (h : CmpOn c S) (g : ρ → σ) {c' : σ → σ → Ordering} {T : σ → Prop}
    (hg : ∀ v, T v → ∃ x, S x ∧ g x = v) (e : ∀ x y, c' (g x) (g y) = c x y) : CmpOn c' T where
  swap a b ha hb := by
    obtain ⟨x, hx, rfl⟩ := hg a ha
    obtain ⟨y, hy, rfl⟩ := hg b hb
    rw [e, e]
    exact h.swap x y hx hy
  trans a b d ha hb hd := by
    obtain ⟨x, hx, rfl⟩ := hg a ha
    obtain ⟨y, hy, rfl⟩ := hg b hb
    obtain ⟨z, hz, rfl⟩ := hg d hd
    rw [e, e, e]
    exact h.trans x y z hx hy hz

theorem eq_of_ge_ge (h : CmpOn c S) (a b : ρ) (ha : S a) (hb : S b) (h1 : c a b ≠ .lt) (h2 : c b a ≠ .lt) :
    c a b = .eq := by
  rw [h.swap a b ha hb] at h2
  cases hc : c a b with
  | eq => rfl
  | lt => exact absurd hc h1
  | gt =>
    rw [hc] at h2
    exact absurd rfl h2

theorem lex (h1 : CmpOn c S) (h2 : CmpOn c₂ S) : CmpOn (fun a b => (c a b).then (c₂ a b)) S where
  swap a b ha hb := by rw [h1.swap a b ha hb, h2.swap a b ha hb, Ordering.swap_then]
  trans a b d ha hb hd g1 g2 := by
    have ge_ab : c a b ≠ .lt := fun h => g1 (congrArg (Ordering.then · (c₂ a b)) h)
    have ge_bd : c b d ≠ .lt := fun h => g2 (congrArg (Ordering.then · (c₂ b d)) h)
    have ge_ad := h1.trans a b d ha hb hd ge_ab ge_bd
    cases had : c a d with
    | lt => exact absurd had ge_ad
    | gt => exact fun h => nomatch h
    | eq =>
      -- `a` and `d` tie on the first comparison, so both steps in between tie as well
      have ge_da : c d a ≠ .lt := by
        rw [h1.swap a d ha hd, had]
        exact fun h => nomatch h
      have eab := h1.eq_of_ge_ge a b ha hb ge_ab (h1.trans b d a hb hd ha ge_bd ge_da)
      have ebd := h1.eq_of_ge_ge b d hb hd ge_bd (h1.trans d a b hd ha hb ge_da ge_ab)
      simp only [eab, ebd, Ordering.eq_then] at g1 g2 ⊢
      exact h2.trans a b d ha hb hd g1 g2

theorem weakOn (h : CmpOn c S) : WeakOn (fun a b => c a b == .lt) S where
  asymm a b ha hb hab := by
    rw [h.swap a b ha hb, eq_of_beq hab]
    rfl
  ntrans a b d ha hb hd h1 h2 := by
    rw [beq_eq_false_iff_ne] at *
    exact h.trans a b d ha hb hd h1 h2

end CmpOn

/-- three-way counterpart of the model's `dirLess` -/
def ordDir (desc : Bool) (o : Ordering) : Ordering := if desc then o.swap else o

theorem CmpOn.dir {ρ : Type} {c : ρ → ρ → Ordering} {S : ρ → Prop} (h : CmpOn c S) (desc : Bool) :
    CmpOn (fun a b => ordDir desc (c a b)) S := by
  cases desc with
  | false => exact h
  | true =>
    -- descending compares with the arguments exchanged
    have flip : CmpOn (fun a b => c b a) S :=
      ⟨fun a b ha hb => h.swap b a hb ha, fun a b d ha hb hd g1 g2 => h.trans d b a hd hb ha g2 g1⟩
    exact flip.of_key id (fun _ ha => ha) fun a b ha hb => (h.swap a b ha hb).symm

theorem cmpChars_eq_compareLex (a b : List Char) :
    cmpChars a b = List.compareLex (fun x y => compare x.toNat y.toNat) a b := by
  induction a generalizing b with
  | nil => cases b <;> rfl
  | cons x xs ih =>
    cases b with
    | nil => rfl
    | cons y ys =>
      rw [List.compareLex_cons_cons, ← ih, cmpChars, Nat.compare_eq_ite_lt,
        apply_ite (Ordering.then · _), apply_ite (Ordering.then · _)]
      rfl

theorem cmpChars_on : CmpOn cmpChars (fun _ => True) := by
  have : Std.TransCmp (fun x y : Char => compare x.toNat y.toNat) :=
    { eq_swap := Std.OrientedCmp.eq_swap (cmp := compare (α := Nat))
      isLE_trans := Std.TransCmp.isLE_trans (cmp := compare (α := Nat)) }
  -- the laws are the ones core proves of `List.compareLex`
  rw [funext fun a => funext (cmpChars_eq_compareLex a)]
  exact .of_transCmp _

theorem cmpBool_on : CmpOn cmpBool (fun _ => True) := ⟨by decide, by decide⟩

section
variable {ν : Type} (N : Num ν)

theorem cmpNumOrd_ne_lt (x y : ν) : cmpNumOrd N x y ≠ .lt ↔ N.lt x y = false := by
  unfold cmpNumOrd
  cases N.lt x y
  all_goals cases N.lt y x
  all_goals decide

theorem cmpNumOrd_on (hN : NumOrd N) : CmpOn (cmpNumOrd N) (fun _ => True) where
  swap x y _ _ := by
    unfold cmpNumOrd
    cases h : N.lt x y
    · cases N.lt y x <;> rfl
    · rw [hN.asymm x y h]
      rfl
  trans x y z _ _ _ := by
    simp only [cmpNumOrd_ne_lt]
    exact hN.ntrans x y z

inductive Kind | num | bool | text
  deriving DecidableEq

def kindOf : Val ν → Kind
  | .num _ => .num
  | .bool _ => .bool
  | _ => .text

/-- a cell is missing or holds a value of kind `k` -/
def okKind (k : Kind) : Option (Val ν) → Prop
  | none => True
  | some v => kindOf v = k

theorem cmpPresent_text (a b : Val ν) (h : kindOf a = .text) :
    cmpPresent N a b = cmpChars (renderVal N a) (renderVal N b) :=
  match a, h with
  | .str _, _ => by cases b <;> rfl
  | .null, _ => by cases b <;> rfl

theorem cmpPresent_on (hN : NumOrd N) (k : Kind) : CmpOn (cmpPresent N) (fun v => kindOf v = k) := by
  cases k with
  | num =>
    exact (cmpNumOrd_on N hN).of_range Val.num (fun | .num x, _ => ⟨x, trivial, rfl⟩) (fun _ _ => rfl)
  | bool =>
    exact cmpBool_on.of_range Val.bool (fun | .bool b, _ => ⟨b, trivial, rfl⟩) (fun _ _ => rfl)
  | text => exact cmpChars_on.of_key (renderVal N) (fun _ _ => trivial) (fun a b h _ => cmpPresent_text N a b h)

theorem cmpVal_on (hN : NumOrd N) (k : Kind) : CmpOn (cmpVal N) (okKind k) where
  swap u v hu hv := by
    cases u with
    | none => cases v <;> rfl
    | some a =>
      cases v with
      | none => rfl
      | some b => exact (cmpPresent_on N hN k).swap a b hu hv
  trans u v w hu hv hw h1 h2 := by
    -- a missing cell is least
    cases u with
    | none =>
      cases v with
      | none => exact h2
      | some b => exact absurd rfl h1
    | some a =>
      cases w with
      | none => exact fun h => nomatch h
      | some d =>
        cases v with
        | none => exact absurd rfl h2
        | some b => exact (cmpPresent_on N hN k).trans a b d hu hv hw h1 h2

end

section
variable {ν κ ρ : Type} (N : Num ν) (getv : κ → ρ → Option (Val ν))

/-- three-way comparison of two rows under the ORDER BY keys -/
def cmpKeys : List (κ × Bool) → ρ → ρ → Ordering
  | [], _, _ => .eq
  | (k, desc) :: ks, a, b => (ordDir desc (cmpVal N (getv k a) (getv k b))).then (cmpKeys ks a b)

theorem lessBy_eq_cmpKeys (keys : List (κ × Bool)) (a b : ρ) :
    lessBy N getv keys a b = (cmpKeys N getv keys a b == .lt) := by
  induction keys with
  | nil => rfl
  | cons kd ks ih =>
    obtain ⟨k, desc⟩ := kd
    rw [lessBy, cmpKeys, ih]
    cases desc
    all_goals cases cmpVal N (getv k a) (getv k b)
    all_goals rfl

/-- the rows' cells under every key are missing or of one kind per key -/
def Homog (keys : List (κ × Bool)) (S : ρ → Prop) : Prop :=
  ∀ kd ∈ keys, ∃ k : Kind, ∀ r, S r → okKind k (getv kd.1 r)

theorem cmpKeys_on (hN : NumOrd N) (keys : List (κ × Bool)) (S : ρ → Prop) (hh : Homog getv keys S) :
    CmpOn (cmpKeys N getv keys) S := by
  induction keys with
  | nil => exact ⟨fun _ _ _ _ => rfl, fun _ _ _ _ _ _ h _ => h⟩
  | cons kd ks ih =>
    obtain ⟨kind, hk⟩ := hh kd (List.mem_cons_self ..)
    have base : CmpOn (fun a b => cmpVal N (getv kd.1 a) (getv kd.1 b)) S :=
      (cmpVal_on N hN kind).of_key (getv kd.1) hk (fun _ _ _ _ => rfl)
    exact (base.dir kd.2).lex (ih fun kd' h => hh kd' (List.mem_cons_of_mem _ h))

theorem lessBy_weakOn (hN : NumOrd N) (keys : List (κ × Bool)) (S : ρ → Prop) (hh : Homog getv keys S) :
    WeakOn (lessBy N getv keys) S := by
  rw [funext fun a => funext (lessBy_eq_cmpKeys N getv keys a)]
  exact (cmpKeys_on N getv hN keys S hh).weakOn

end
end PostAgg
