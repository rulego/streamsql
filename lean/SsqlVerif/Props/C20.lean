/-
C20 — Caller data is never modified and instances do not influence each other.

`Caller.Work` carries the caller's map together with the engine's working map (`own = none` means the
working map *is* the caller's map — `Emit` does not copy).  Stages write through `Work.write`; what the
analytic engine, the expression bridge, the table lookup, WHERE and the projection compute is arbitrary
(`QEnv`), so every statement holds for every history of the instance's private state.
-/
import SsqlVerif.Proofs.CallerRow
import SsqlVerif.Spec.CallerRow
import SsqlVerif.Generated.Facts
set_option autoImplicit false

namespace C20
open Pipe Caller CallerSpec

/-- Both paths hand the caller's row back equal to what came in (the form the driver prints). -/
theorem caller_row_unchanged_eq (q : QCfg) (e : QEnv) (row : Row) :
    (directStep q e row).1 = row ∧ (windowStep q e row).1 = row :=
  ⟨directStep_caller q e row, windowStep_caller q e row⟩

/-- **The caller's row is left exactly as it was** — by the direct path (`EmitSync`, and `Emit` of a
non-window query: JOIN enrichment, analytic evaluation with injection of results / multi-column fan-out /
WHERE placeholders, filter, projection) and by the window path (JOIN enrichment, filter, injection of
computed group keys, `Window.Add`), for every query shape, every row and every behaviour of the abstract
evaluators. -/
theorem caller_row_unchanged (q : QCfg) (e : QEnv) (row : Row) :
    callerUntouched row (directStep q e row).1 ∧ callerUntouched row (windowStep q e row).1 := by
  rw [directStep_caller, windowStep_caller]
  exact ⟨sameMap_refl row, sameMap_refl row⟩

/-! The model can express the defect: with the copy removed (`evalAnalyticInPlace`, the code before the repair)
`SELECT id, lag(v) AS p … WHERE had_changed(true, v)` on `{id:1, v:5}` leaves `p` and the WHERE placeholder
(`__analytic_0__` in the code, `_0` here) in the caller's map; the repaired stage does not. -/
def exQ : QCfg := { hasJoin := false, analytic := [(['p'], false)], wherePlaceholders := [['_', '0']], groupFields := [] }
def exE : QEnv :=
  { joinRow := fun _ => none, analyticEval := fun _ => [(['p'], .null), (['_', '0'], .bool true)], fanOut := fun _ => [],
    whereP := fun _ => true, groupKeyEval := fun _ _ => some (.str ['A']), project := fun r _ => some r }
def exRow : Row := [(['i', 'd'], .int 1), (['v'], .int 5)]

theorem in_place_injection_reaches_the_caller :
    (lookupKey ['_', '0'] (evalAnalyticInPlace exQ exE { caller := exRow, own := none }).1.caller).isSome = true ∧
    (lookupKey ['_', '0'] (evalAnalytic exQ exE { caller := exRow, own := none }).1.caller).isSome = false := by
  decide +kernel

example : (lookupKey ['p'] (evalAnalyticInPlace exQ exE { caller := exRow, own := none }).1.caller).isSome = true := by
  decide +kernel
example : (keysOf (injectGroupKeysInPlace { exQ with groupFields := [['u', '(', 'k', ')']] } exE
    { caller := exRow, own := none }).caller).length = 3 := by decide +kernel
example : (keysOf (windowStep { exQ with groupFields := [['u', '(', 'k', ')']] } exE exRow).1).length = 2 := by decide +kernel

/-- **The repair is invisible to the rest of the pipeline**: WHERE, the projection and the window read the
same working map (with all injected values) and get the same analytic results as before the repair. -/
theorem repair_preserves_working_view (q : QCfg) (e : QEnv) (w : Work) :
    (evalAnalytic q e w).1.read = (evalAnalyticInPlace q e w).1.read ∧
    (evalAnalytic q e w).2 = (evalAnalyticInPlace q e w).2 ∧
    (injectGroupKeys q e w).read = (injectGroupKeysInPlace q e w).read :=
  ⟨(evalAnalytic_eq_inPlace q e w).1, (evalAnalytic_eq_inPlace q e w).2, injectGroupKeys_read_eq_inPlace q e w⟩

/-- **Rows handed to a sink are not altered afterwards.**  Result rows are objects the engine allocates; a step
writes only to objects it allocated itself and then delivers them.  Every object ever delivered still reads as
it did at delivery. -/
theorem sink_rows_not_altered_later (steps : List RStep) :
    ∀ p ∈ (rrun {} steps).delivered, (rrun {} steps).heap[p.1]? = some p.2 :=
  rinv_run {} steps nofun

/-- The same after any further steps `more`: the delivery log only grows. -/
theorem sink_rows_not_altered_later_prefix (steps more : List RStep) :
    ∀ p ∈ (rrun {} steps).delivered, (rrun (rrun {} steps) more).heap[p.1]? = some p.2 := by
  intro p hp
  exact rinv_run _ more (sink_rows_not_altered_later steps) p ((delivered_mono _ more).subset hp)

example : (rrun {} [⟨[[(['a'], .int 1)]], [(0, ['b'], .int 2)]⟩,
    ⟨[[]], [(0, ['c'], .null), (7, ['x'], .null)]⟩]).delivered.length = 2 := by
  decide +kernel

section
variable {Ty Prog : Type} [DecidableEq Ty]

/-- **Cache transparency.**  If every entry of the process-wide program / preprocess caches is what the pure
functions would return (true of the empty caches), evaluating an expression through the caches returns what
evaluating it without any cache returns and leaves the caches consistent — provided compilation is a function
of (expression text, env type), i.e. the function registry is not changed while instances run. -/
theorem cache_transparent (b : Bridge Ty Prog) (g : Shared Ty Prog) (hg : Consistent b g) (text : Str) (row : Row) :
    (evalCached b g text row).2 = evalPure b text row ∧ Consistent b (evalCached b g text row).1 :=
  evalCached_spec b g hg text row

/-- **Instances are independent.**  Two instances (same or different SQL, any private state, any per-row
behaviour) that touch process-wide state only through the expression bridge, fed in any interleaving:
each produces exactly the outputs it produces alone. -/
theorem instances_independent {σ τ : Type} (b : Bridge Ty Prog) (ia : Inst σ) (ib : Inst τ)
    (g : Shared Ty Prog) (hg : Consistent b g) (sa : σ) (sb : τ) (sched : List (Bool × Row)) :
    independent (runAlone b ia sa (rowsOf true sched)) (runBoth b ia ib g sa sb sched).1 ∧
    independent (runAlone b ib sb (rowsOf false sched)) (runBoth b ia ib g sa sb sched).2 :=
  runBoth_spec b ia ib g hg sa sb sched

/-- in particular from a cold start -/
theorem instances_independent_cold {σ τ : Type} (b : Bridge Ty Prog) (ia : Inst σ) (ib : Inst τ)
    (sa : σ) (sb : τ) (sched : List (Bool × Row)) :
    (runBoth b ia ib {} sa sb sched).1 = runAlone b ia sa (rowsOf true sched) :=
  (runBoth_spec b ia ib {} (consistent_empty b) sa sb sched).1
end

/-! an *inconsistent* cache does change results (consistency is a real hypothesis), and a program compiled for
another env type is not reused -/
def exB : Bridge Bool Nat :=
  { prep := id, compile := fun t ty => some (t.length + (if ty then 100 else 0)), typeOf := fun r => r.isEmpty,
    run := fun p _ => .int p, fallback := fun _ _ => .null }
example : (match (evalCached exB { prog := [(['x'], (false, 7))] } ['x'] [(['a'], .null)]).2 with
    | .int n => n | _ => 0) = 7 := by
  decide +kernel
example : (match evalPure exB ['x'] [(['a'], .null)] with | .int n => n | _ => 0) = 1 := by decide +kernel
example : (match (evalCached exB { prog := [(['x'], (true, 7))] } ['x'] [(['a'], .null)]).2 with
    | .int n => n | _ => 0) = 1 := by
  decide +kernel

end C20

/-- tie to the source: a GROUP BY field is a computed key iff it contains `(` -/
theorem C20.facts_groupkey : Facts.stream_Stream_injectGroupKeyExprs_strlits = ["("] := rfl
